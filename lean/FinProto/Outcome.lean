/-
  Outcomes and reader combinators.  Lean functions are total, so a Go panic is an explicit outcome.
  The interpreter is written ONLY with these named combinators (never a raw `match` on results) so
  that every cross-cutting property is a compositional predicate proved once per combinator.
-/
import FinProto.Basic
namespace FinProto

inductive Outcome (α : Type) where
  | ok (a : α)
  | err
  | panic
  deriving Repr, DecidableEq

namespace Outcome
def map (f : α → β) : Outcome α → Outcome β
  | ok a => ok (f a)
  | err => err
  | panic => panic
def bind (o : Outcome α) (f : α → Outcome β) : Outcome β :=
  match o with
  | ok a => f a
  | err => err
  | panic => panic
@[simp] theorem bind_ok (a : α) (f : α → Outcome β) : (ok a).bind f = f a := rfl
@[simp] theorem bind_err (f : α → Outcome β) : (err : Outcome α).bind f = err := rfl
@[simp] theorem bind_panic (f : α → Outcome β) : (panic : Outcome α).bind f = panic := rfl
@[simp] theorem map_ok (a : α) (f : α → β) : (ok a).map f = ok (f a) := rfl
@[simp] theorem map_err (f : α → β) : (err : Outcome α).map f = err := rfl
@[simp] theorem map_panic (f : α → β) : (panic : Outcome α).map f = panic := rfl
theorem bind_eq_ok {o : Outcome α} {f : α → Outcome β} {b : β} :
    o.bind f = ok b ↔ ∃ a, o = ok a ∧ f a = ok b := by
  cases o <;> simp [bind]
theorem map_eq_ok {o : Outcome α} {f : α → β} {b : β} :
    o.map f = ok b ↔ ∃ a, o = ok a ∧ f a = b := by
  cases o <;> simp [map]
end Outcome

/-- a reader consumes from the front of the unread region -/
abbrev R (α : Type) := Bytes → Outcome (α × Bytes)

def pureR (a : α) : R α := fun b => .ok (a, b)
def failR : R α := fun _ => .err
def panicR : R α := fun _ => .panic
def bindR (r : R α) (f : α → R β) : R β := fun b => (r b).bind (fun p => f p.1 p.2)
def mapR (f : α → β) (r : R α) : R β := bindR r (fun a => pureR (f a))

/-- split off exactly `n` bytes, walking the list once (no `length`: the driver runs this on long inputs) -/
def splitN : Nat → Bytes → Option (Bytes × Bytes)
  | 0, b => some ([], b)
  | _+1, [] => none
  | n+1, x :: xs => (splitN n xs).map (fun p => (x :: p.1, p.2))

theorem splitN_eq (n : Nat) (b : Bytes) :
    splitN n b = if n ≤ b.length then some (b.take n, b.drop n) else none := by
  induction n generalizing b with
  | zero => simp [splitN]
  | succ n ih =>
    cases b with
    | nil => simp [splitN]
    | cons x xs =>
      simp only [splitN, ih, List.length_cons, Nat.add_le_add_iff_right, List.take_succ_cons, List.drop_succ_cons]
      split <;> simp

/-- `io.ReadFull` of exactly `n` bytes: all or error -/
def takeN (n : Nat) : R Bytes := fun b =>
  match splitN n b with
  | some p => .ok p
  | none => .err

theorem takeN_eq (n : Nat) (b : Bytes) :
    takeN n b = if n ≤ b.length then .ok (b.take n, b.drop n) else .err := by
  simp only [takeN, splitN_eq]
  by_cases h : n ≤ b.length <;> simp [h]

/-- run `elem` `n` times, collecting the results in order -/
def decRep (elem : R α) : Nat → R (List α)
  | 0 => pureR []
  | n+1 => bindR elem (fun a => mapR (fun l => a :: l) (decRep elem n))

@[simp] theorem pureR_apply (a : α) (b : Bytes) : pureR a b = .ok (a, b) := rfl
@[simp] theorem failR_apply (b : Bytes) : (failR : R α) b = .err := rfl
@[simp] theorem panicR_apply (b : Bytes) : (panicR : R α) b = .panic := rfl

theorem bindR_eq_ok {r : R α} {f : α → R β} {b : Bytes} {v : β} {rest : Bytes} :
    bindR r f b = .ok (v, rest) ↔ ∃ a b', r b = .ok (a, b') ∧ f a b' = .ok (v, rest) := by
  simp only [bindR, Outcome.bind_eq_ok, Prod.exists]

theorem mapR_eq_ok {r : R α} {f : α → β} {b : Bytes} {v : β} {rest : Bytes} :
    mapR f r b = .ok (v, rest) ↔ ∃ a, r b = .ok (a, rest) ∧ f a = v := by
  simp only [mapR, bindR_eq_ok, pureR_apply, Outcome.ok.injEq, Prod.mk.injEq]
  constructor
  · rintro ⟨a, b', h1, h2, h3⟩; subst h3; exact ⟨a, h1, h2⟩
  · rintro ⟨a, h1, h2⟩; exact ⟨a, rest, h1, h2, rfl⟩

theorem takeN_append (c r : Bytes) : takeN c.length (c ++ r) = .ok (c, r) := by
  simp [takeN_eq]

theorem takeN_eq_ok {n : Nat} {b : Bytes} {v rest : Bytes} :
    takeN n b = .ok (v, rest) ↔ n ≤ b.length ∧ v = b.take n ∧ rest = b.drop n := by
  rw [takeN_eq]
  split
  next hn =>
    constructor
    · intro h
      cases h
      exact ⟨hn, rfl, rfl⟩
    · rintro ⟨_, rfl, rfl⟩
      rfl
  next hn => exact ⟨nofun, fun h => absurd h.1 hn⟩

theorem takeN_eq_ok_append {n : Nat} {b v rest : Bytes} :
    takeN n b = .ok (v, rest) ↔ b = v ++ rest ∧ v.length = n := by
  constructor
  · intro h
    obtain ⟨hn, rfl, rfl⟩ := takeN_eq_ok.mp h
    exact ⟨(List.take_append_drop n b).symm, List.length_take_of_le hn⟩
  · rintro ⟨rfl, rfl⟩
    exact takeN_append v rest

/-- `rd` reads `a` from exactly the bytes `bs`, whatever follows them -/
def Reads (rd : R α) (bs : Bytes) (a : α) : Prop := ∀ rest, rd (bs ++ rest) = .ok (a, rest)

theorem Reads.pure (a : α) : Reads (pureR a) [] a := fun _ => rfl

-- against a known goal `k` is read off it; a forward `have := h1.bind h2` needs `(k := …)`
theorem Reads.bind {rd : R α} {k : α → R β} {bs cs : Bytes} {a : α} {b : β} (h1 : Reads rd bs a)
    (h2 : Reads (k a) cs b) : Reads (bindR rd k) (bs ++ cs) b := fun rest =>
  bindR_eq_ok.mpr ⟨a, cs ++ rest, List.append_assoc bs cs rest ▸ h1 (cs ++ rest), h2 rest⟩

theorem Reads.map {rd : R α} {f : α → β} {bs : Bytes} {a : α} {b : β} (h : Reads rd bs a) (hf : f a = b) :
    Reads (mapR f rd) bs b := fun rest =>
  mapR_eq_ok.mpr ⟨a, h rest, hf⟩

theorem Reads.takeN {n : Nat} {c : Bytes} (h : c.length = n) : Reads (takeN n) c c :=
  h ▸ takeN_append c

theorem Reads.decRep {elem : R α} {g : α → Bytes} :
    ∀ {l : List α}, (∀ a ∈ l, Reads elem (g a) a) → Reads (decRep elem l.length) (l.flatMap g) l
  | [], _ => Reads.pure []
  | a :: _, h =>
    (h a (List.mem_cons_self ..)).bind ((Reads.decRep fun x hx => h x (List.mem_cons_of_mem _ hx)).map rfl)

theorem Reads.exact {rd : R α} {bs : Bytes} {a : α} (h : Reads rd bs a) : rd bs = .ok (a, []) :=
  List.append_nil bs ▸ h []

theorem mapR_apply (f : α → β) (r : R α) (b : Bytes) : mapR f r b = (r b).map (fun p => (f p.1, p.2)) := by
  simp only [mapR, bindR]
  cases r b <;> rfl

@[simp] theorem pureR_bindR (a : α) (f : α → R β) : bindR (pureR a) f = f a := rfl

theorem Outcome.map_eq_bind (o : Outcome α) (f : α → β) : o.map f = o.bind (fun a => .ok (f a)) := by
  cases o <;> rfl

theorem Outcome.map_ne_panic {o : Outcome α} (f : α → β) (h : o ≠ .panic) : o.map f ≠ .panic := by
  cases o with
  | ok a => exact nofun
  | err => exact nofun
  | panic => exact absurd rfl h

theorem Outcome.bind_ne_panic {o : Outcome α} {f : α → Outcome β} (h : o ≠ .panic)
    (hf : ∀ a, o = .ok a → f a ≠ .panic) : o.bind f ≠ .panic := by
  cases o with
  | ok a => exact hf a rfl
  | err => exact nofun
  | panic => exact absurd rfl h

/-! ### steps that never panic (readers, and encoder steps: `E α` is the same type) -/

def NoPanic (rd : R α) : Prop := ∀ b, rd b ≠ .panic

theorem np_pureR (a : α) : NoPanic (pureR a) := fun _ => nofun

theorem np_failR : NoPanic (failR : R α) := fun _ => nofun

theorem np_bindR_of_ok {rd : R α} {f : α → R β} (h1 : NoPanic rd)
    (h2 : ∀ b a b', rd b = .ok (a, b') → NoPanic (f a)) : NoPanic (bindR rd f) :=
  fun b => Outcome.bind_ne_panic (h1 b) fun p hp => h2 b p.1 p.2 hp p.2

theorem np_bindR {rd : R α} {f : α → R β} (h1 : NoPanic rd) (h2 : ∀ a, NoPanic (f a)) :
    NoPanic (bindR rd f) :=
  np_bindR_of_ok h1 (fun _ a _ _ => h2 a)

theorem np_mapR {rd : R α} (f : α → β) (h : NoPanic rd) : NoPanic (mapR f rd) :=
  np_bindR h (fun a => np_pureR (f a))

theorem np_takeN (n : Nat) : NoPanic (takeN n) := by
  intro b h
  rw [takeN_eq] at h
  split at h <;> cases h

end FinProto
