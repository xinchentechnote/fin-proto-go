/-
  The translations of `Padding`, `WriteFixedString[WithPadding]` and `ReadFixedString[TrimPadding]` compute `writeFixed` and
  `readFixed`; the two loops that strip the padding compute `trimL` and `trimR`.
-/
import FinProto.Props.GoIRSim
namespace FinProto.GoIR
open FinProto

theorem prog_13 : prog[13]? = some PinnedIR.fn13 := rfl
theorem prog_14 : prog[14]? = some PinnedIR.fn14 := rfl
theorem prog_15 : prog[15]? = some PinnedIR.fn15 := rfl
theorem prog_16 : prog[16]? = some PinnedIR.fn16 := rfl
theorem prog_17 : prog[17]? = some PinnedIR.fn17 := rfl

theorem ir_padding (ext : Ext O) (n p : Nat) (buf : Bytes) (lf k : Nat) (hk : 1 ≤ k) :
    runFn ext prog lf k ixPadding [] [natV n, natV p] buf
      = .ret [.err false] (buf ++ List.replicate n (UInt8.ofNat p)) := by
  have h8 : (256 : Nat) ^ 1 = 2 ^ 8 := rfl
  have h1 : (0:Int) ≤ ((p % 2 ^ 8 : Nat) : Int) ∧ ((p % 2 ^ 8 : Nat) : Int) < 256 :=
    ⟨Int.natCast_nonneg _, Int.ofNat_lt.2 (Nat.mod_lt p (by decide))⟩
  have h2 : (0:Int) ≤ (n : Int) := Int.natCast_nonneg n
  rw [ixPadding, runFn_pos ext prog_15 hk]
  simp only [PinnedIR.fn15, goir, Nat.reduceEqDiff, wrap_u_nat, h8, if_pos h1, if_pos h2, Int.toNat_natCast,
    UInt8.ofNat_mod_size, List.flatten_replicate_singleton]

theorem ir_writeFixed (ext : Ext O) (s : Bytes) (n p : Nat) (left : Bool) (buf : Bytes) (lf k : Nat) (hk : 2 ≤ k) :
    runFn ext prog lf k ixWFixed [] [.bytes s, natV n, natV p, .bool left] buf
      = .ret [.err false] (buf ++ writeFixed n (UInt8.ofNat p) left s) := by
  rw [ixWFixed, runFn_pos ext prog_14 (by omega)]
  by_cases h : s.length > n
  · have hc : cop .gt (↑s.length) (n : Int) = true := decide_eq_true (Int.ofNat_lt.2 h)
    have hle : (0:Int) ≤ (n : Int) ∧ (n : Int) ≤ ↑s.length := ⟨Int.natCast_nonneg n, Int.ofNat_le.2 (Nat.le_of_lt h)⟩
    simp only [PinnedIR.fn14, goir, Nat.reduceEqDiff, natV, Int.ofNat_eq_natCast, hc, if_pos hle, Int.toNat_natCast,
      writeFixed_long h]
  · have hc : cop .gt (↑s.length) (n : Int) = false := decide_eq_false (mt Int.ofNat_lt.1 h)
    have hsub : (n : Int) - ↑s.length = ((n - s.length : Nat) : Int) := (Int.ofNat_sub (Nat.le_of_not_gt h)).symm
    have hpad := fun b => ir_padding ext (n - s.length) p b lf (k - 1) (by omega)
    simp only [ixPadding, natV, Int.ofNat_eq_natCast] at hpad
    cases left
    · simp only [PinnedIR.fn14, goir, Nat.reduceEqDiff, natV, Int.ofNat_eq_natCast, hc, aop, hsub, hpad, Bool.not_false,
        writeFixed_short_right (Nat.le_of_not_gt h), List.append_assoc]
    · simp only [PinnedIR.fn14, goir, Nat.reduceEqDiff, natV, Int.ofNat_eq_natCast, hc, aop, hsub, hpad, Bool.not_true,
        writeFixed_short_left (Nat.le_of_not_gt h), List.append_assoc]

theorem ofNat_32 : UInt8.ofNat 32 = 0x20 := rfl

theorem ir_writeFixedDef (ext : Ext O) (s : Bytes) (n : Nat) (buf : Bytes) (lf k : Nat) (hk : 3 ≤ k) :
    runFn ext prog lf k ixWFixedDef [] [.bytes s, natV n] buf
      = .ret [.err false] (buf ++ writeFixed n 0x20 false s) := by
  rw [ixWFixedDef, runFn_pos ext prog_13 (by omega)]
  exact WSpec.tailcall (o := .ok _) rfl rfl (ir_writeFixed ext s n 32 false buf lf (k - 1) (by omega))

private theorem toNat_eq_iff (b : UInt8) (p : Nat) : ((b.toNat : Int) = ((p % 256 : Nat) : Int)) ↔ b = UInt8.ofNat p := by
  rw [← UInt8.toNat_inj]
  simp only [UInt8.toNat_ofNat']
  omega

def condL : Expr := (.and (.cmp .gt (.len (.var 3)) (.int 0)) (.cmp .eq (.index (.var 3) (.int 0)) (.var 5)))
def bodyL : Stmt := (.set 3 (.sliceFrom (.var 3) (.int 1)))
def condR : Expr := (.and (.cmp .gt (.len (.var 3)) (.int 0)) (.cmp .eq (.index (.var 3) (.arith .sub (.ty .big) (.len (.var 3)) (.int 1))) (.var 5)))
def bodyR : Stmt := (.set 3 (.sliceTo (.var 3) (.arith .sub (.ty .big) (.len (.var 3)) (.int 1))))
def whileL : Stmt := .while condL .skip bodyL
def whileR : Stmt := .while condR .skip bodyR

section
variable (ext : Ext O) (callee : Nat → List Ty → List (V O) → Bytes → CallRes O) (lf p : Nat) (bs : Bytes) (s : St O)

private theorem exec_whileL (hf : bs.length < lf) (h3 : s.loc 3 = .bytes bs) (h5 : s.loc 5 = .int ((p % 256 : Nat) : Int)) :
    exec ext callee lf [] whileL s = .norm (s.set 3 (.bytes (trimL (UInt8.ofNat p) bs))) := by
  have h := whileLoop_trimL (cond := fun s => evalE [] s condL) (body := exec ext callee lf [] bodyL)
    (post := exec ext callee lf [] .skip) (fun l => s.set 3 (.bytes l)) (UInt8.ofNat p) ?_ ?_ ?_ (fun _ => rfl) bs lf hf
  · rw [St.set_self s 3 _ h3] at h
    rwa [whileL, exec.while]
  · simp only [condL, goir, cop, gt_iff_lt, List.length_nil, Int.natCast_zero, Int.lt_irrefl, decide_false]
  · intro b l
    have hgt : (0 : Int) < ((l.length + 1 : Nat) : Int) := by omega
    simp only [condL, goir, Nat.reduceEqDiff, h5, cop, gt_iff_lt, List.length_cons, hgt, decide_true, Int.le_refl,
      Int.toNat_zero, List.getElem?_cons_zero, toNat_eq_iff]
  · intro b l
    have : (0 : Int) ≤ 1 ∧ (1 : Int) ≤ ((l.length + 1 : Nat) : Int) := by omega
    simp only [bodyL, goir, List.length_cons, this, Int.toNat_one, List.drop_one, List.tail_cons, St.set_set]

private theorem exec_whileR (hf : bs.length < lf) (h3 : s.loc 3 = .bytes bs) (h5 : s.loc 5 = .int ((p % 256 : Nat) : Int)) :
    exec ext callee lf [] whileR s = .norm (s.set 3 (.bytes (trimR (UInt8.ofNat p) bs))) := by
  have h := whileLoop_trimL (cond := fun s => evalE [] s condR) (body := exec ext callee lf [] bodyR)
    (post := exec ext callee lf [] .skip) (fun l => s.set 3 (.bytes l.reverse)) (UInt8.ofNat p) ?_ ?_ ?_ (fun _ => rfl)
    bs.reverse lf (by simpa using hf)
  · rw [List.reverse_reverse, St.set_self s 3 _ h3] at h
    rwa [whileR, exec.while]
  · simp only [condR, goir, cop, gt_iff_lt, List.reverse_nil, List.length_nil, Int.natCast_zero, Int.lt_irrefl, decide_false]
  · intro b l
    have hgt : (0 : Int) < ((l.length + 1 : Nat) : Int) := by omega
    have hsub : (((l.length + 1 : Nat) : Int) - 1).toNat = l.length := by omega
    have h0 : (0 : Int) ≤ ((l.length + 1 : Nat) : Int) - 1 := by omega
    have hidx : (l.reverse ++ [b])[l.length]? = some b := by
      rw [List.getElem?_append_right (by simp)]; simp
    simp only [condR, goir, Nat.reduceEqDiff, h5, cop, gt_iff_lt, List.reverse_cons, List.length_append, List.length_reverse,
      List.length_cons, List.length_nil, Nat.zero_add, hgt, decide_true, aop, h0, hsub, hidx, toNat_eq_iff]
  · intro b l
    have hsub : (((l.length + 1 : Nat) : Int) - 1).toNat = l.reverse.length := by simp only [List.length_reverse]; omega
    have : (0 : Int) ≤ ((l.length + 1 : Nat) : Int) - 1 ∧ ((l.length + 1 : Nat) : Int) - 1 ≤ ((l.length + 1 : Nat) : Int) := by omega
    simp only [bodyR, goir, aop, List.reverse_cons, List.length_append, List.length_reverse,
      List.length_cons, List.length_nil, Nat.zero_add, this, hsub, List.take_left', St.set_set]
end

theorem fn17_body : PinnedIR.fn17.body =
 (.seq (.makeBytes 3 (.var 0))
 (.seq (.readFull 3 none (some 4))
 (.seq (.set 5 (.conv (.ty (.u 1)) (.var 1)))
 (.seq (.ite (.var 2)
 (.seq whileL
 (.ret [(.toStr (.var 3)), (.var 4)]))
 .skip)
 (.seq whileR
 (.ret [(.toStr (.var 3)), (.var 4)])))))) := rfl

/-- `ReadFixedStringTrimPadding` after `io.ReadFull`: trim on the pad side, return what was read with `ReadFull`'s error -/
private theorem exec_trimTail (ext : Ext O) (callee : Nat → List Ty → List (V O) → Bytes → CallRes O) (lf p : Nat) (left : Bool)
    (bs : Bytes) (v4 : V O) (s : St O) (hf : bs.length < lf) (h1 : s.loc 1 = natV p) (h2 : s.loc 2 = .bool left)
    (h3 : s.loc 3 = .bytes bs) (h4 : s.loc 4 = v4) :
    (exec ext callee lf []
      (.seq (.set 5 (.conv (.ty (.u 1)) (.var 1)))
        (.seq (.ite (.var 2) (.seq whileL (.ret [(.toStr (.var 3)), (.var 4)])) .skip)
          (.seq whileR (.ret [(.toStr (.var 3)), (.var 4)])))) s).toCall
      = .ret [.bytes (trim (UInt8.ofNat p) left bs), v4] s.buf := by
  have h5 : (s.set 5 (.int ((p % 256 : Nat) : Int))).loc 5 = .int ((p % 256 : Nat) : Int) := by simp only [goir]
  have h3' : (s.set 5 (.int ((p % 256 : Nat) : Int))).loc 3 = .bytes bs := by simp only [goir, Nat.reduceEqDiff, h3]
  cases left
  · simp only [goir, Nat.reduceEqDiff, h1, h2, natV, Int.ofNat_eq_natCast, wrap_u_nat, Nat.pow_one,
      exec_whileR ext callee lf p bs _ hf h3' h5, h4, trim, Bool.false_eq_true]
  · simp only [goir, Nat.reduceEqDiff, h1, h2, natV, Int.ofNat_eq_natCast, wrap_u_nat, Nat.pow_one,
      exec_whileL ext callee lf p bs _ hf h3' h5, h4, trim]

theorem ir_readFixed (ext : Ext O) (n p : Nat) (left : Bool) (buf : Bytes) (lf k : Nat) (hlf : n < lf) (hk : 1 ≤ k) :
    RSpec (runFn ext prog lf k ixRFixed [] [natV n, natV p, .bool left] buf) V.bytes
      (readFixed n (UInt8.ofNat p) left buf) := by
  have h0 : (0:Int) ≤ (n : Int) := Int.natCast_nonneg n
  rw [ixRFixed, runFn_pos ext prog_17 hk, fn17_body, readFixed_eq]
  -- the rest is made a variable so that `simp` stops after `io.ReadFull`, where `exec_trimTail` takes over
  generalize htl : Stmt.seq (.set 5 _) _ = tl
  by_cases hn : n ≤ buf.length
  · simp only [goir, natV, Int.ofNat_eq_natCast, h0, Int.toNat_natCast, List.length_replicate, hn]
    subst htl
    rw [exec_trimTail ext _ lf p left (buf.take n) (.err false) _ (by rw [List.length_take]; omega)
      (by simp only [goir, Nat.reduceEqDiff]) (by simp only [goir, Nat.reduceEqDiff])
      (by simp only [goir, Nat.reduceEqDiff]) (by simp only [goir])]
    rfl
  · have hlen : (fillFrom buf (List.replicate n 0)).length < lf := by
      simp only [fillFrom, List.length_append, List.length_drop, List.length_replicate]; omega
    simp only [goir, natV, Int.ofNat_eq_natCast, h0, Int.toNat_natCast, List.length_replicate, hn]
    subst htl
    rw [exec_trimTail ext _ lf p left _ (.err true) _ hlen
      (by simp only [goir, Nat.reduceEqDiff]) (by simp only [goir, Nat.reduceEqDiff])
      (by simp only [goir, Nat.reduceEqDiff]) (by simp only [goir])]
    exact ⟨_, _, rfl⟩

theorem ir_readFixedDef (ext : Ext O) (n : Nat) (buf : Bytes) (lf k : Nat) (hlf : n < lf) (hk : 2 ≤ k) :
    RSpec (runFn ext prog lf k ixRFixedDef [] [natV n] buf) V.bytes (readFixed n 0x20 false buf) := by
  rw [ixRFixedDef, runFn_pos ext prog_16 (by omega)]
  exact RSpec.tailcall rfl rfl (ir_readFixed ext n 32 false buf lf (k - 1) hlf (by omega))

end FinProto.GoIR
