/-
  The encoder-side theorems of `EncLemmas.lean` on `Pinned.env`, the committed snapshot of the schema:
  type 96 = sse.SseBinary (fields MsgType, MsgSeqNum, MsgBodyLen, Body, Checksum),
  88 = sse.Heartbeat (no fields), 89 = sse.Logon.
-/
import FinProto.Props.EncLemmas
import FinProto.Props.PinnedFacts
namespace FinProto

/-- SseBinary holding a Heartbeat: the stale length 99 and the stale checksum 5 are replaced -/
theorem sse_heartbeat_run :
    encTy Pinned.env 3 96 (.msg 96 [.num 33, .num 7, .num 99, .msg 88 [], .num 5]) [0xAA] =
      .ok (.msg 96 [.num 33, .num 7, .num 0, .msg 88 [], .num 40],
           [0xAA, 0,0,0,33, 0,0,0,0,0,0,0,7, 0,0,0,0, 0,0,0,40]) :=
  Outcome.ok_of_eqb (by decide +kernel)

/-- SseBinary holding a Logon whose pointer is present -/
theorem sse_logon_run :
    encTy Pinned.env 3 96 (.msg 96 [.num 40, .num 1, .num 0,
        .msg 89 [.str [65], .str [66], .num 30, .str [49], .num 5, .num 6], .num 0]) [] =
      .ok (.msg 96 [.num 40, .num 1, .num 82,
        .msg 89 [.str [65], .str [66], .num 30, .str [49], .num 5, .num 6], .num 248],
        [0,0,0,40, 0,0,0,0,0,0,0,1, 0,0,0,82] ++
        (65 :: List.replicate 31 32) ++ (66 :: List.replicate 31 32) ++ [0, 30] ++ (49 :: List.replicate 7 32) ++
        [0,0,0,5, 0,0,0,6] ++ [0,0,0,248]) :=
  Outcome.ok_of_eqb (by decide +kernel)

example :
    ∃ hv hdrBytes body body' bodyBytes,
      encSeq (encOp Pinned.env (encTy Pinned.env 2) (zeroTy Pinned.env 2) [.num 33, .num 7, .num 99, .msg 88 [], .num 5])
        [.scalar 4 .be, .scalar 8 .be] [.num 33, .num 7] [] = .ok (hv, hdrBytes) ∧
      ([.num 33, .num 7, .num 99, .msg 88 [], .num 5] : List Val)[3]? = some body ∧
      encPtr (encTy Pinned.env 2) .skip
        ((unionTy Pinned.env 0 13 [.num 33, .num 7, .num 99, .msg 88 [], .num 5]).map (zeroTy Pinned.env 2))
        (unionTy Pinned.env 0 13 [.num 33, .num 7, .num 99, .msg 88 [], .num 5]) body [] = .ok (body', bodyBytes) ∧
      ([0xAA, 0,0,0,33, 0,0,0,0,0,0,0,7, 0,0,0,0, 0,0,0,40] : Bytes) =
        [0xAA] ++ (hdrBytes ++ toE .be 4 (bodyBytes.length % 2 ^ 32) ++ bodyBytes) ++
          toE .be 4 (cksNat .sse (hdrBytes ++ toE .be 4 (bodyBytes.length % 2 ^ 32) ++ bodyBytes)) := by
  obtain ⟨hv, hb, body, body', bb, h1, h2, h3, _, hs⟩ :=
    frame_shape (env := Pinned.env) (f := 2) (ty := 96) (td := Pinned.t96) rfl rfl sse_heartbeat_run
  exact ⟨hv, hb, body, body', bb, h1, h2, h3, (hs .sse 4 rfl).2.1⟩

example := frame_len_exact (env := Pinned.env) (f := 2) (ty := 96) (td := Pinned.t96) rfl rfl rfl sse_heartbeat_run
example := frame_cks_exact (env := Pinned.env) (f := 2) (ty := 96) (td := Pinned.t96) rfl rfl rfl sse_logon_run

example : ∀ pre', encTy Pinned.env 3 96 (.msg 96 [.num 33, .num 7, .num 99, .msg 88 [], .num 5]) pre' =
    .ok (.msg 96 [.num 33, .num 7, .num 0, .msg 88 [], .num 40],
         pre' ++ [0,0,0,33, 0,0,0,0,0,0,0,7, 0,0,0,0, 0,0,0,40]) :=
  enc_context_free (pre := [0xAA]) sse_heartbeat_run

example : encTy Pinned.env 3 96 (.msg 96 [.num 33, .num 7, .num 0, .msg 88 [], .num 40]) [0xAA] =
    .ok (.msg 96 [.num 33, .num 7, .num 0, .msg 88 [], .num 40],
         [0xAA, 0,0,0,33, 0,0,0,0,0,0,0,7, 0,0,0,0, 0,0,0,40]) :=
  enc_idempotent sse_heartbeat_run

theorem Pinned.hdrsOK : Pinned.env.hdrsOK = true := hdrsOK_of_mirrorOK Pinned.mirrorOK

/-- C17 on the real schema: no message without nil group elements makes any Encode panic -/
theorem pinned_enc_no_panic : ∀ f ty fs pre, noNilElems (.msg ty fs) = true →
    encTy Pinned.env f ty (.msg ty fs) pre ≠ .panic :=
  enc_no_panic Pinned.guardsOK Pinned.refsOK Pinned.hdrsOK

/-- e.g. an SseBinary whose body pointer is nil (skipped by the frame encoder) -/
example : ∀ pre, encTy Pinned.env 3 96 (.msg 96 [.num 33, .num 7, .num 99, .nil, .num 5]) pre ≠ .panic :=
  fun pre => pinned_enc_no_panic 3 96 _ pre (by decide)

end FinProto
