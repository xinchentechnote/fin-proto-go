/-
  The GoIR tie, decoder half: see GoIRTie.lean.
-/
import FinProto.Props.GoIRTie
import FinProto.Props.GoIR_D
namespace FinProto.GoIR
open FinProto

/-- the domain of the decoder theorems: prefix types of at most 8 bytes; a fixed length below 2^63, because it is the
    Go `int` handed to `make([]byte, fixedLen)` -/
def opOKr : Op → Prop
  | .vstr pw _ => pw ≤ 8
  | .nums cw _ _ => cw ≤ 8
  | .fixed n _ _ => n < 2 ^ 63
  | .fixeds cw n _ _ _ => cw ≤ 8 ∧ n < 2 ^ 63
  | .vstrs cw pw _ => cw ≤ 8 ∧ pw ≤ 8
  | .objs cw _ _ => cw ≤ 8
  | _ => True

theorem rspec_mapR {r : CallRes O} {inj : β → V O} {f : α → β} {rd : R α} {buf : Bytes}
    (h : RSpec r (fun a => inj (f a)) (rd buf)) : RSpec r inj (mapR f rd buf) := by
  rw [mapR_apply]
  revert h
  cases rd buf <;> exact id

/-- how a decoded wire value is held by the Go reader's result -/
def vOfVal : Val → V Val
  | .num n => natV n
  | .str s => .bytes s
  | .nums l => natsV l
  | .strs l => .strs l
  | .msgs l => .objs l
  | _ => .unit

/-- the decoder leaves for either variant of the call (`dflt`: the reader without padding arguments, which the generated
    code uses for pad ' ' on the right) -/
theorem decOp_ir_dflt (dflt : Bool) (env : Env) (decTy : Nat → R Val) (acc : List Val) (ext : Ext Val)
    (op : Op) (c : Nat × List Ty × List (V Val)) (hc : opReader dflt op = some c) (hok : opOKr op)
    (hd : dflt = true → (∃ n, op = .fixed n 32 false) ∨ (∃ cw n e, op = .fixeds cw n 32 false e))
    (hext : ∀ cw ty e, op = .objs cw ty e → ∀ b, ext.dec ext.new b = decTy ty b)
    (buf : Bytes) (lf k : Nat) (hlf : 2 ^ 64 ≤ lf) (hk : 4 ≤ k) :
    RSpec (runFn ext prog lf k c.1 c.2.1 c.2.2 buf) vOfVal (decOp env decTy acc op buf) := by
  cases dflt
  · cases op <;> cases hc
    case scalar.refl w e => exact rspec_mapR (ir_readScalar ext e w buf lf k (by omega))
    case fixed.refl n pad left =>
      exact rspec_mapR (ir_readFixed ext n pad left buf lf k (by simp only [opOKr] at hok; omega) (by omega))
    case vstr.refl pw e => exact rspec_mapR (ir_readVstr ext e pw hok buf lf k (by omega))
    case nums.refl cw w e => exact rspec_mapR (ir_readNums ext e cw w hok buf lf k hlf (by omega))
    case fixeds.refl cw n pad left e =>
      exact rspec_mapR (ir_readFixeds ext e cw n pad left hok.1 hok.2 buf lf k hlf (by omega))
    case vstrs.refl cw pw e => exact rspec_mapR (ir_readVstrs ext e cw pw hok.1 hok.2 buf lf k hlf (by omega))
    case objs.refl cw ty e =>
      exact rspec_mapR (ir_readObjs ext (decTy ty) (hext cw ty e rfl) e cw (.u 0) hok buf lf k hlf (by omega))
  · rcases hd rfl with ⟨n, rfl⟩ | ⟨cw, n, e, rfl⟩ <;> cases hc
    · exact rspec_mapR (ir_readFixedDef ext n buf lf k (by simp only [opOKr] at hok; omega) (by omega))
    · exact rspec_mapR (ir_readFixedsDef ext e cw n hok.1 hok.2 buf lf k hlf (by omega))

/-- DECODER LEAVES.  The call that a decoder statement of kind `op` makes, executed on the translated source, returns the
    value `decOp` returns and consumes exactly the bytes it consumes, fails exactly when it fails (a short buffer, a
    claimed length beyond what is present) and panics exactly when it panics (a 64-bit count with the top bit set). -/
theorem decOp_ir (env : Env) (decTy : Nat → R Val) (acc : List Val) (ext : Ext Val)
    (op : Op) (c : Nat × List Ty × List (V Val)) (hc : opReader false op = some c) (hok : opOKr op)
    (hext : ∀ cw ty e, op = .objs cw ty e → ∀ b, ext.dec ext.new b = decTy ty b)
    (buf : Bytes) (lf k : Nat) (hlf : 2 ^ 64 ≤ lf) (hk : 4 ≤ k) :
    RSpec (runFn ext prog lf k c.1 c.2.1 c.2.2 buf) vOfVal (decOp env decTy acc op buf) :=
  decOp_ir_dflt false env decTy acc ext op c hc hok (fun h => absurd h Bool.false_ne_true) hext buf lf k hlf hk

example : rspecB (runFn noExt prog 100 callDepth (ixRNums .le) [.u 2, .u 2] [] [2, 0, 2, 1, 3, 0, 0xBB]) natsV
    (.ok ([0x0102, 3], [0xBB])) = true := by decide +kernel

end FinProto.GoIR
