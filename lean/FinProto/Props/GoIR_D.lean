/-
  The translations of the list readers (`ReadBasicTypeList`, `ReadFixedStringList[TrimPadding]`, `ReadStringList`,
  `ReadObjectList`, each with its `LE` twin) compute `readNums`, `readFixeds`, `readVstrs` and `readList`.  Each is the
  count prefix (`Sim.readHdr`) and one counting loop that runs `decRep` (`whileLoop_decRep`), except
  `ReadFixedStringList[LE]`, which calls `ReadFixedStringListTrimPadding[LE]` with pad ' ' on the right.
-/
import FinProto.Props.GoIR_A
import FinProto.Props.GoIR_B
namespace FinProto.GoIR
open FinProto

section
variable (ext : Ext O) (callee : Nat → List Ty → List (V O) → Bytes → CallRes O) (lf : Nat) (targs : List Ty)

private theorem exec_seq (a b : Stmt) (s : St O) :
    exec ext callee lf targs (.seq a b) s =
      match exec ext callee lf targs a s with
      | .norm s1 => exec ext callee lf targs b s1
      | r => r := exec.seq ext callee lf targs a b s

private theorem exec_set_int (x : Nat) (n : Int) (s : St O) :
    exec ext callee lf targs (.set x (.int n)) s = .norm (s.set x (.int n)) := by rfl

private theorem exec_set_nilErr (x : Nat) (s : St O) :
    exec ext callee lf targs (.set x .nilErr) s = .norm (s.set x (.err false)) := by rfl

private theorem exec_while (c : Expr) (post body : Stmt) (s : St O) :
    exec ext callee lf targs (.while c post body) s =
      whileLoop (fun s => evalE targs s c) (exec ext callee lf targs body) (exec ext callee lf targs post) lf s :=
  exec.while ext callee lf targs c post body s

private theorem exec_ret (es : List Expr) (s : St O) :
    exec ext callee lf targs (.ret es) s =
      match evalArgs targs s es with
      | some vs => .ret vs s
      | none => .panic := exec.ret ext callee lf targs es s

end

section
variable {ext : Ext O} {callee : Nat → List Ty → List (V O) → Bytes → CallRes O} {lf : Nat} {targs : List Ty}

/-- `for i := 0; i < count; i++ { body }`, where `body` reads one element with `elem` and appends it to slot `xr`;
    `P` is what the body needs of the frame and keeps -/
theorem whileLoop_decRep {E : List (V O) → Prop} {xi xc xr : Nat} {body : Stmt} {elem : R α} {wrap : List α → V O}
    {P : St O → Prop} (hic : xc ≠ xi) (hir : xr ≠ xi) (hP : ∀ s v, P s → P (s.set xi v))
    (hbody : ∀ (s : St O) (acc : List α), P s → s.loc xr = wrap acc →
      Sim E (Sim.norm fun p s' => s'.buf = p.2 ∧ s'.loc xr = wrap (acc ++ [p.1]) ∧ s'.loc xi = s.loc xi ∧
          s'.loc xc = s.loc xc ∧ P s') (exec ext callee lf targs body s) (elem s.buf))
    (c : Nat) :
    ∀ (m i lf' : Nat) (s : St O) (acc : List α), i + m = c → m < lf' →
      s.loc xi = .int (i : Int) → s.loc xc = .int (c : Int) → s.loc xr = wrap acc → P s →
      Sim E (Sim.norm fun p s' => s'.buf = p.2 ∧ s'.loc xr = wrap (acc ++ p.1) ∧ P s')
        (whileLoop (fun s => evalE targs s (.cmp .lt (.var xi) (.var xc))) (exec ext callee lf targs body)
          (exec ext callee lf targs (.set xi (.arith .add (.ty .big) (.var xi) (.int 1)))) lf' s)
        (decRep elem m s.buf) := by
  intro m
  induction m with
  | zero =>
    intro i lf' s acc him hlf hi hc hr hp
    obtain ⟨l, rfl⟩ := Nat.exists_eq_add_one.2 hlf
    obtain rfl : i = c := by omega
    rw [whileLoop_false (by simp only [goir, hi, hc, cop, Int.lt_irrefl, decide_false])]
    exact Sim.norm_ok ⟨rfl, by rw [hr, List.append_nil], hp⟩
  | succ m ih =>
    intro i lf' s acc him hlf hi hc hr hp
    obtain ⟨l, rfl⟩ := Nat.exists_eq_add_one.2 (Nat.zero_lt_of_lt hlf)
    have hlt : (i : Int) < (c : Int) := by omega
    have hcond : evalE targs s (.cmp .lt (.var xi) (.var xc)) = some (.bool true) := by
      simp only [goir, hi, hc, cop, hlt, decide_true]
    simp only [whileLoop, hcond, decRep, bindR]
    refine Sim.bind (hbody s acc hp hr) ?_
    rintro ⟨a, rest⟩ s1 ⟨hbuf, hr1, hi1, hc1, hp1⟩
    have hpost : exec ext callee lf targs (.set xi (.arith .add (.ty .big) (.var xi) (.int 1))) s1
        = .norm (s1.set xi (.int ((i + 1 : Nat) : Int))) := by
      simp only [goir, hi1, hi, aop, Int.natCast_add, Int.cast_ofNat_Int]
    have ih' := ih (i + 1) l (s1.set xi (.int ((i + 1 : Nat) : Int))) (acc ++ [a]) (by omega) (by omega)
      (by simp only [goir]) (by simp only [goir, hic, hc1, hc]) (by simp only [goir, hir, hr1]) (hP _ _ hp1)
    rw [St.set_buf, hbuf] at ih'
    rw [hpost, mapR_apply]
    refine ih'.map_mono ?_
    rintro ⟨vs, rest'⟩ s2 ⟨hb2, hr2, hp2⟩
    exact ⟨hb2, by rw [hr2, List.append_assoc]; rfl, hp2⟩

def emptyV (O : Type) : ListKind → V O
  | .ints => .ints []
  | .strs => .strs []
  | .objs => .objs []

/-- the head of a list reader: `var t T; err := binary.Read(buf, order, &t); if err != nil { return nil, err }; count := int(t);
    result := make([]K, 0, min(count, buf.Len())); rest` -/
def readHdr (e : Endian) (x0 x1 x2 x3 : Nat) (kind : ListKind) (rest : Stmt) : Stmt :=
  .seq (.set x0 (.int 0))
  (.seq (.seq (.binRead (.order e) (.param 0) x0 (some x1))
    (.ite (.cmp .ne (.var x1) .nilErr) (.ret [.nil, (.var x1)]) .skip))
  (.seq (.set x2 (.conv (.ty (.s 8)) (.var x0)))
  (.seq (.makeList x3 kind (.min (.var x2) .bufLen)) rest)))

/-- `for i := 0; i < count; i++ { body }; return result, E` -/
def countTail (xi xc xr : Nat) (body : Stmt) (E : Expr) : Stmt :=
  .seq (.seq (.set xi (.int 0))
    (.while (.cmp .lt (.var xi) (.var xc)) (.set xi (.arith .add (.ty .big) (.var xi) (.int 1))) body))
  (.ret [(.var xr), E])

theorem Sim.readHdr {P : β × Bytes → Res O → Prop} {cw : Nat} {tl : List Ty} (hcw : cw ≤ 8) {e : Endian}
    {x0 x1 x2 x3 : Nat} {kind : ListKind} {rest : Stmt} {s : St O} {f : Nat → R β}
    (hrest : ∀ count : Nat, count < 2 ^ 63 → ∀ b,
      Sim (∃ v, · = [v, .err true]) P (exec ext callee lf (.u cw :: tl) rest
        ((((({ buf := b, loc := (s.set x0 (.int 0)).loc } : St O).set x0 (.int count)).set x1 (.err false)).set x2
          (.int count)).set x3 (emptyV O kind))) (f count b))
    (h01 : x0 ≠ x1 := by decide) :
    Sim (∃ v, · = [v, .err true]) P (exec ext callee lf (.u cw :: tl) (GoIR.readHdr e x0 x1 x2 x3 kind rest) s)
      (bindR (readScalar cw e) (fun count => lenGuard count (f count)) s.buf) := by
  refine Sim.readLen rfl hcw e (evalE.nil _) f (fun n b h2 => ?_) (fun n b m hm => ?_) h01
  · have hmin : (0 : Int) ≤ if (n : Int) ≤ (b.length : Int) then (n : Int) else (b.length : Int) := by split <;> omega
    have := hrest n h2 b
    simp only [goir, hmin]
    cases kind <;> exact this
  · have hmin : ¬ ((0 : Int) ≤ if m ≤ (b.length : Int) then m else (b.length : Int)) := by split <;> omega
    simp only [goir, hmin]

theorem Sim.countTail {xi xc xr : Nat} {body : Stmt} {Eret : Expr} (elem : R α) (wrap : List α → V O)
    (P : St O → Prop) (hP : ∀ s v, P s → P (s.set xi v))
    (hbody : ∀ (s : St O) (acc : List α), P s → s.loc xr = wrap acc →
      Sim (∃ v, · = [v, .err true])
        (Sim.norm fun p s' => s'.buf = p.2 ∧ s'.loc xr = wrap (acc ++ [p.1]) ∧ s'.loc xi = s.loc xi ∧
          s'.loc xc = s.loc xc ∧ P s') (exec ext callee lf targs body s) (elem s.buf))
    (hE : ∀ s, P s → evalE targs s Eret = some (.err false))
    {count : Nat} (hlf : count < lf) {s : St O} (hc : s.loc xc = .int (count : Int)) (hr : s.loc xr = wrap [])
    (hp : P s) (hic : xc ≠ xi := by decide) (hir : xr ≠ xi := by decide) :
    Sim (∃ v, · = [v, .err true]) (fun p r => r.toCall = .ret [wrap p.1, .err false] p.2)
      (exec ext callee lf targs (GoIR.countTail xi xc xr body Eret) s) (decRep elem count s.buf) := by
  refine Sim.seq_last ?_ ?_ (Q := fun p s' => s'.buf = p.2 ∧ s'.loc xr = wrap ([] ++ p.1) ∧ P s')
  · simp only [exec_seq, exec_set_int, exec_while]
    exact whileLoop_decRep hic hir hP hbody count count 0 lf
      (s.set xi (.int 0)) [] (by omega) hlf (by simp only [goir]; rfl) (by simp only [goir, hic, hc])
      (by simp only [goir, hir, hr]) (hP _ _ hp)
  · rintro p s' ⟨hb, hr', hp'⟩
    simp only [goir, hr', hE s' hp', hb, List.nil_append]

/-- element read by a call, error check, append -/
def callBody (f : Nat) (tas : List TyRef) (args : List Expr) (xa xe xr : Nat) : Stmt :=
  .seq (.call f tas args [some xa, some xe])
    (.seq (.ite (.cmp .ne (.var xe) .nilErr) (.ret [.nil, .var xe]) .skip) (.append xr (.var xa)))

theorem Sim.callAppend {f xa xe xr xi xc : Nat} {tas : List TyRef} {args : List Expr} {tas' : List Ty}
    (inj : α → V O) (wrap : List α → V O) {elem : R α} {P : St O → Prop}
    (htas : resolveAll targs tas = some tas')
    (happ : ∀ acc a, appendV (wrap acc) (inj a) = some (wrap (acc ++ [a])))
    (hP : ∀ (s : St O) b va ve vr, P s → P (((({ s with buf := b } : St O).set xa va).set xe ve).set xr vr))
    {s : St O} {acc : List α} (vs : List (V O)) (hargs : evalArgs targs s args = some vs)
    (hcal : RSpec (callee f tas' vs s.buf) inj (elem s.buf)) (hp : P s) (hr : s.loc xr = wrap acc)
    (hd : xa ≠ xe ∧ xr ≠ xa ∧ xr ≠ xe ∧ xi ≠ xa ∧ xi ≠ xe ∧ xi ≠ xr ∧ xc ≠ xa ∧ xc ≠ xe ∧ xc ≠ xr := by decide) :
    Sim (∃ v, · = [v, .err true])
      (Sim.norm fun p s' => s'.buf = p.2 ∧ s'.loc xr = wrap (acc ++ [p.1]) ∧ s'.loc xi = s.loc xi ∧
          s'.loc xc = s.loc xc ∧ P s') (exec ext callee lf targs (callBody f tas args xa xe xr) s) (elem s.buf) := by
  rw [callBody, ← exec.seq_assoc]
  refine Sim.seq_last (Sim.callR (evalE.nil _) htas hargs hcal) ?_
  rintro ⟨a, rest⟩ _ rfl
  simp only [goir, hd, hr, happ, true_and]
  exact hP _ _ _ _ _ hp

end

theorem ir_readNums (ext : Ext O) (e : Endian) (cw w : Nat) (hcw : cw ≤ 8) (buf : Bytes) (lf k : Nat)
    (hlf : 2 ^ 64 ≤ lf) (hk : 2 ≤ k) :
    RSpec (runFn ext prog lf k (ixRNums e) [.u cw, .u w] [] buf) natsV (readNums cw w e buf) := by
  rw [runFn_body ext (body := readHdr e 0 1 2 3 .ints (.seq (.set 4 .nilErr)
      (countTail 5 2 3 (callBody (ixRScalar e) [.param 1] [] 6 7 3) (.var 4)))) (by cases e <;> rfl) (by omega)]
  refine rspec_of_sim (Sim.readHdr hcw fun count hc b => ?_)
  rw [exec_seq, exec_set_nilErr]
  refine Sim.countTail (readScalar w e) natsV (fun s => s.loc 4 = .err false)
    (fun s v h => by simpa only [goir, Nat.reduceEqDiff] using h) ?_
    (fun s h => by simp only [goir, h]) (by omega) (by simp only [goir, Nat.reduceEqDiff])
    (by simp only [goir, Nat.reduceEqDiff]; rfl) (by simp only [goir])
  intro s acc hp hr
  exact Sim.callAppend natV natsV rfl
    (fun acc a => by simp only [natsV, natV, appendV.ints, List.map_append, List.map_cons, List.map_nil])
    (fun s b va ve vr h => by simpa only [goir, Nat.reduceEqDiff] using h) [] rfl
    (ir_readScalar ext e w s.buf lf (k - 1) (by omega)) hp hr

theorem ir_readFixeds (ext : Ext O) (e : Endian) (cw n p : Nat) (left : Bool) (hcw : cw ≤ 8) (hn : n < 2 ^ 63)
    (buf : Bytes) (lf k : Nat) (hlf : 2 ^ 64 ≤ lf) (hk : 2 ≤ k) :
    RSpec (runFn ext prog lf k (ixRFixeds e) [.u cw] [natV n, natV p, .bool left] buf) V.strs
      (readFixeds cw n (UInt8.ofNat p) left e buf) := by
  rw [runFn_body ext (body := readHdr e 3 4 5 6 .strs (.seq (.set 7 .nilErr)
      (countTail 8 5 6 (callBody ixRFixed [] [.var 0, .var 1, .var 2] 9 10 6) (.var 7)))) (by cases e <;> rfl) (by omega)]
  refine rspec_of_sim (Sim.readHdr hcw fun count hc b => ?_)
  rw [exec_seq, exec_set_nilErr]
  refine Sim.countTail (readFixed n (UInt8.ofNat p) left) V.strs
    (fun s => s.loc 7 = .err false ∧ s.loc 0 = natV n ∧ s.loc 1 = natV p ∧ s.loc 2 = .bool left)
    (fun s v h => by simpa only [goir, Nat.reduceEqDiff] using h) ?_
    (fun s h => by simp only [goir, h.1]) (by omega) (by simp only [goir, Nat.reduceEqDiff])
    (by simp only [goir, Nat.reduceEqDiff]; rfl) (by simp only [goir, Nat.reduceEqDiff, and_self])
  intro s acc hp hr
  exact Sim.callAppend V.bytes V.strs rfl appendV.strs
    (fun s b va ve vr h => by simpa only [goir, Nat.reduceEqDiff] using h)
    [natV n, natV p, .bool left] (by simp only [goir, hp.2.1, hp.2.2.1, hp.2.2.2])
    (ir_readFixed ext n p left s.buf lf (k - 1) (by omega) (by omega)) hp hr

theorem ir_readFixedsDef (ext : Ext O) (e : Endian) (cw n : Nat) (hcw : cw ≤ 8) (hn : n < 2 ^ 63)
    (buf : Bytes) (lf k : Nat) (hlf : 2 ^ 64 ≤ lf) (hk : 3 ≤ k) :
    RSpec (runFn ext prog lf k (ixRFixedsDef e) [.u cw] [natV n] buf) V.strs (readFixeds cw n 0x20 false e buf) := by
  rw [runFn_body ext (body :=
      .seq (.call (ixRFixeds e) [(.param 0)] [(.var 0), (.int 32), (.bool false)] [(some 1), (some 2)])
        (.ret [(.var 1), (.var 2)])) (by cases e <;> rfl) (by omega)]
  exact RSpec.tailcall rfl rfl (ir_readFixeds ext e cw n 32 false hcw hn buf lf (k - 1) hlf (by omega))

/-- `buf.Read(b)` into a fresh slice no longer than what is unread fills it (Go returns `0, nil` for an empty slice) -/
theorem exec_bufRead_fresh {ext : Ext O} {callee : Nat → List Ty → List (V O) → Bytes → CallRes O} {lf : Nat}
    {targs : List Ty} (x y z : Nat) (s : St O) (n : Nat) (hx : s.loc x = .bytes (List.replicate n 0))
    (hn : n ≤ s.buf.length) :
    exec ext callee lf targs (.bufRead x (some y) (some z)) s =
      .norm (((({ s with buf := s.buf.drop n } : St O).set x (.bytes (s.buf.take n))).set y (.int (n : Int))).set z
        (.err false)) := by
  by_cases hb : s.buf = []
  · obtain rfl : n = 0 := by rw [hb] at hn; exact Nat.le_zero.mp hn
    simp only [goir, hx, hb, List.isEmpty_nil, List.replicate_zero, Bool.not_true, List.drop_nil, List.take_nil,
      Int.natCast_zero]
    rw [St.set_self { s with buf := [] } x _ (by rw [hx]; rfl), ← hb]
  · have hne : s.buf.isEmpty = false := by simpa only [List.isEmpty_eq_false_iff] using hb
    simp only [goir, hx, hne, Bool.false_eq_true, List.length_replicate, Nat.min_eq_left hn, fillFrom, List.length_take,
      List.drop_replicate, Nat.sub_self, List.replicate_zero, List.append_nil]

/-- the element reader of `ReadStringList`, written out in its loop -/
private def strBody (e : Endian) : Stmt :=
 (.seq (.set 5 (.int 0))
 (.seq (.seq (.binRead (.order e) (.param 1) 5 (some 6))
 (.ite (.cmp .ne (.var 6) .nilErr)
 (.ret [.nil, (.var 6)])
 .skip))
 (.seq (.set 7 (.conv (.ty (.s 8)) (.var 5)))
 (.seq (.ite (.cmp .gt (.var 7) .bufLen)
 (.ret [.nil, .newErr])
 .skip)
 (.seq (.makeBytes 8 (.var 7))
 (.seq (.bufRead 8 (some 9) (some 10))
 (.seq (.ite (.or (.cmp .ne (.var 10) .nilErr) (.cmp .ne (.var 9) (.var 7)))
 (.ret [.nil, .newErr])
 .skip)
 (.append 3 (.toStr (.var 8))))))))))

theorem ir_readVstrs (ext : Ext O) (e : Endian) (cw pw : Nat) (hcw : cw ≤ 8) (hpw : pw ≤ 8) (buf : Bytes) (lf k : Nat)
    (hlf : 2 ^ 64 ≤ lf) (hk : 1 ≤ k) :
    RSpec (runFn ext prog lf k (ixRVstrs e) [.u cw, .u pw] [] buf) V.strs (readVstrs cw pw e buf) := by
  rw [runFn_body ext (body := readHdr e 0 1 2 3 .strs (countTail 4 2 3 (strBody e) .nilErr)) (by cases e <;> rfl) hk]
  refine rspec_of_sim (Sim.readHdr hcw fun count hc b => ?_)
  refine Sim.countTail (readVstr pw e) V.strs (fun _ => True) (fun _ _ _ => trivial) ?_ (fun s _ => evalE.nilErr _ s)
    (by omega) (by simp only [goir, Nat.reduceEqDiff]) (by simp only [goir, Nat.reduceEqDiff]; rfl) trivial
  intro s acc _ hr
  refine Sim.readText rfl hpw e (evalE.nil _) fun n b hb => ?_
  rw [exec_seq, exec_bufRead_fresh 8 9 10 _ n (by simp only [goir]) hb]
  simp only [goir, Nat.reduceEqDiff, cop, ne_eq, not_true_eq_false, decide_false, hr, true_and]

private def objBody : Stmt :=
  .seq (.objNew 6)
    (.seq (.seq (.objDecode 6 (some 7)) (.ite (.cmp .ne (.var 7) .nilErr) (.ret [(.var 4), (.var 7)]) .skip))
      (.append 4 (.var 6)))

theorem ir_readObjs (ext : Ext O) (elem : R O) (hdec : ∀ b, ext.dec ext.new b = elem b)
    (e : Endian) (cw : Nat) (t : Ty) (hcw : cw ≤ 8) (buf : Bytes) (lf k : Nat) (hlf : 2 ^ 64 ≤ lf) (hk : 1 ≤ k) :
    RSpec (runFn ext prog lf k (ixRObjs e) [.u cw, t] [] buf) V.objs (readList cw e elem buf) := by
  rw [runFn_body ext (body := readHdr e 1 2 3 4 .objs (countTail 5 3 4 objBody .nilErr)) (by cases e <;> rfl) hk]
  refine rspec_of_sim (Sim.readHdr hcw fun count hc b => ?_)
  refine Sim.countTail elem V.objs (fun _ => True) (fun _ _ _ => trivial) ?_ (fun s _ => evalE.nilErr _ s) (by omega)
    (by simp only [goir, Nat.reduceEqDiff]) (by simp only [goir, Nat.reduceEqDiff]; rfl) trivial
  intro s acc _ hr
  rw [← hdec]
  cases h : ext.dec ext.new s.buf with
  | ok p => simp only [objBody, goir, h, Nat.reduceEqDiff, hr, and_true]
  | err =>
    simp only [objBody, goir, h, Nat.reduceEqDiff, hr]
    exact ⟨_, rfl⟩
  | panic => simp only [objBody, goir, h]

end FinProto.GoIR
