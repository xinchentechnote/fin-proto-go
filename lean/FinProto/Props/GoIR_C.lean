/-
  The translations of the list writers (`WriteBasicTypeList`, `WriteFixedStringList[WithPadding]`, `WriteStringList`,
  `WriteObjectList`, each with its `LE` twin) compute `writeNums`, `writeFixeds`, `writeVstrs` and, for objects, the count
  prefix followed by the interpreter's `encAll`.  Each is the count prefix and one loop (`listBody`), except
  `WriteFixedStringList[LE]`, which calls `WriteFixedStringListWithPadding[LE]` with pad ' ' on the right.  The loop is
  followed in terms of the whole buffer (`thread`, `rangeLoop_thread`), because the `Encode` of an object is handed the
  buffer; `wspec_writeList` and `wspecE_encList` go back to the models.
-/
import FinProto.Props.GoIR_A
import FinProto.Props.GoIR_B
namespace FinProto.GoIR
open FinProto

def thread (g : α → Bytes → Outcome Bytes) : List α → Bytes → Outcome Bytes
  | [], b => .ok b
  | a :: as, b => (g a b).bind (thread g as)

theorem thread_writeAll (f : α → Outcome Bytes) (l : List α) (b : Bytes) :
    thread (fun a b => (f a).map (b ++ ·)) l b = (writeAll f l).map (b ++ ·) := by
  induction l generalizing b with
  | nil => simp only [thread, writeAll, Outcome.map_ok, List.append_nil]
  | cons a as ih =>
    rw [thread, writeAll]
    cases f a with
    | ok c =>
      rw [Outcome.map_ok, Outcome.bind_ok, Outcome.bind_ok, ih]
      cases writeAll f as <;> simp [List.append_assoc]
    | err => rfl
    | panic => rfl

theorem thread_encAll (f : Val → E Val) (l : List Val) (b : Bytes) :
    thread (fun a b => (f a b).map (·.2)) l b = (encAll f l b).map (·.2) := by
  induction l generalizing b with
  | nil => rfl
  | cons a as ih =>
    rw [thread, encAll, bindE]
    cases f a b with
    | ok p =>
      rw [Outcome.map_ok, Outcome.bind_ok, Outcome.bind_ok, ih, mapE]
      cases encAll f as p.2 <;> rfl
    | err => rfl
    | panic => rfl

/-- `Inv` is what the body needs of the frame and keeps, `Q` what it needs of an element -/
theorem rangeLoop_thread {E : List (V O) → Prop} (x : Nat) (body : St O → Res O) (Inv : St O → Prop) (Q : α → Prop)
    (inj : α → V O) (g : α → Bytes → Outcome Bytes)
    (hbody : ∀ s a, Inv s → Q a → Sim E (Sim.norm fun b s' => s'.buf = b ∧ Inv s') (body (s.set x (inj a))) (g a s.buf))
    (l : List α) (hl : ∀ a ∈ l, Q a) (s : St O) (hs : Inv s) :
    Sim E (Sim.norm fun b s' => s'.buf = b ∧ Inv s') (rangeLoop x body (l.map inj) s) (thread g l s.buf) := by
  induction l generalizing s with
  | nil => exact Sim.norm_ok ⟨rfl, hs⟩
  | cons a as ih =>
    refine Sim.bind (hbody s a hs (hl a (List.mem_cons_self ..))) ?_
    rintro b s' ⟨rfl, hs'⟩
    exact ih (fun a h => hl a (List.mem_cons_of_mem _ h)) s' hs'

/-- `WSpec` for a statement in the middle of a body: `Sim (· = [.err true]) (Sim.norm fun bs s' => s'.buf = buf ++ bs) r o`
    written out outcome by outcome -/
def XSpec (r : Res O) (buf : Bytes) : Outcome Bytes → Prop
  | .ok bs => ∃ s', r = .norm s' ∧ s'.buf = buf ++ bs
  | .err => ∃ s', r = .ret [.err true] s'
  | .panic => r = .panic

/-- `rangeLoop_thread` for a body that appends `f a` to the buffer, stated without `Sim`: what the body does is written
    out outcome by outcome, what the loop does is `XSpec` -/
theorem rangeLoop_writeAll (x : Nat) (body : St O → Res O) (Inv : St O → Prop) (Q : α → Prop) (inj : α → V O)
    (f : α → Outcome Bytes)
    (hbody : ∀ s a, Inv s → Q a →
      match f a with
      | .ok bs => ∃ s', body (s.set x (inj a)) = .norm s' ∧ s'.buf = s.buf ++ bs ∧ Inv s'
      | .err => ∃ s', body (s.set x (inj a)) = .ret [.err true] s'
      | .panic => body (s.set x (inj a)) = .panic)
    (l : List α) (hl : ∀ a ∈ l, Q a) (s : St O) (hs : Inv s) :
    XSpec (rangeLoop x body (l.map inj) s) s.buf (writeAll f l) := by
  have h := rangeLoop_thread (E := (· = [.err true])) x body Inv Q inj (fun a b => (f a).map (b ++ ·)) ?_ l hl s hs
  · rw [thread_writeAll] at h
    revert h
    cases writeAll f l with
    | ok bs =>
      intro h
      obtain ⟨s', h, hb, -⟩ := Sim.ok_iff.1 h
      exact ⟨s', h, hb⟩
    | err =>
      intro h
      obtain ⟨_, s', h, rfl⟩ := Sim.err_iff.1 h
      exact ⟨s', h⟩
    | panic => exact Sim.panic_iff.1
  · intro s a hs ha
    have h := hbody s a hs ha
    revert h
    cases f a with
    | ok bs =>
      rintro ⟨s', h, hb⟩
      rw [h]
      exact Sim.norm_ok hb
    | err =>
      rintro ⟨s', h⟩
      rw [h]
      exact Sim.err_ret.2 rfl
    | panic =>
      intro h
      rw [h]
      exact Sim.panic_iff.2 rfl

/-- a list writer: the count prefix, then the loop, then `return nil` -/
def listBody (e : Endian) (d x : Nat) (body : Stmt) : Stmt :=
  .seq (.seq (.call ixWriteLen [.param 0] [.order e, .len (.var 0)] [some d])
      (.ite (.cmp .ne (.var d) .nilErr) (.ret [.var d]) .skip))
    (.seq (.range x (.var 0) body) (.ret [.nilErr]))

theorem Sim.listBody {ext : Ext O} {lf k : Nat} (hk : 1 ≤ k) {targs : List Ty} {e : Endian} {cw : Nat} (hcw : cw ≤ 8)
    (htp : targs[0]? = some (.u cw)) {d x : Nat} {body : Stmt} (inj : α → V O) (l : List α)
    (hl : l.length < 2 ^ 63) {s : St O} (hlen : lenV (s.loc 0) = some (l.length : Int))
    (helems : elems (s.loc 0) = some (l.map inj)) (Inv : St O → Prop) (Q : α → Prop) {g : α → Bytes → Outcome Bytes}
    (hbody : ∀ s a, Inv s → Q a → Sim (· = [.err true]) (Sim.norm fun b s' => s'.buf = b ∧ Inv s')
      (exec ext (runFn ext prog lf k) lf targs body (s.set x (inj a))) (g a s.buf))
    (hQ : ∀ a ∈ l, Q a) (hinv : ∀ b, Inv (({ s with buf := b } : St O).set d (.err false))) (hd : 0 ≠ d := by decide) :
    Sim (· = [.err true]) (fun b r => r.toCall = .ret [.err false] b)
      (exec ext (runFn ext prog lf k) lf targs (GoIR.listBody e d x body) s)
      ((writeLen cw e l.length).bind (fun c => thread g l (s.buf ++ c))) := by
  refine Sim.seq (Sim.callW (tas' := [.u cw]) (by simp only [goir, htp]) (by simp only [goir, hlen])
    (ir_writeLen ext e cw l.length hcw hl s.buf lf k hk)) ?_
  rintro c _ rfl
  refine Sim.seq_last ?_ ?_ (Q := fun b s' => s'.buf = b ∧ Inv s')
  · have hs : (({ s with buf := s.buf ++ c } : St O).set d (.err false)).loc 0 = s.loc 0 := by simp only [goir, hd, if_false]
    simp only [goir, hs, helems]
    exact rangeLoop_thread x _ Inv Q inj g hbody l hQ _ (hinv _)
  · rintro b s' ⟨rfl, -⟩
    simp only [goir]

theorem wspec_writeList {r : Res O} {buf : Bytes} {cw : Nat} {e : Endian} {f : α → Outcome Bytes} {l : List α}
    (h : Sim (· = [.err true]) (fun b r => r.toCall = .ret [.err false] b) r
      ((writeLen cw e l.length).bind (fun c => thread (fun a b => (f a).map (b ++ ·)) l (buf ++ c)))) :
    WSpec r.toCall buf (writeList cw e f l) := by
  have hm : ((writeLen cw e l.length).bind (fun c => thread (fun a b => (f a).map (b ++ ·)) l (buf ++ c))) =
      (writeList cw e f l).map (buf ++ ·) := by
    simp only [thread_writeAll, writeList]
    cases writeLen cw e l.length with
    | ok c => cases writeAll f l <;> simp only [Outcome.bind_ok, Outcome.map_ok, Outcome.map_err, Outcome.map_panic,
        List.append_assoc]
    | err => rfl
    | panic => rfl
  exact wspec_of_sim (Sim.map.1 (hm ▸ h))

theorem wspecE_encList {r : Res Val} {buf : Bytes} {cw : Nat} {e : Endian} {f : Val → E Val} {l : List Val}
    (h : Sim (· = [.err true]) (fun b r => r.toCall = .ret [.err false] b) r
      ((writeLen cw e l.length).bind (fun c => thread (fun a b => (f a b).map (·.2)) l (buf ++ c)))) :
    WSpecE r.toCall ((bindE (emit () (writeLen cw e l.length)) (fun _ => encAll f l)) buf) := by
  have hm : ((writeLen cw e l.length).bind (fun c => thread (fun a b => (f a b).map (·.2)) l (buf ++ c))) =
      ((bindE (emit () (writeLen cw e l.length)) (fun _ => encAll f l)) buf).map (·.2) := by
    simp only [thread_encAll, bindE, emit]
    cases writeLen cw e l.length <;> rfl
  exact wspecE_of_sim (Sim.map.1 (hm ▸ h))

private def numsElem (e : Endian) : Stmt :=
  .seq (.call (ixWScalar e) [.param 1] [.var 2] [some 3])
    (.ite (.cmp .ne (.var 3) .nilErr) (.ret [.var 3]) .skip)

theorem ir_writeNums (ext : Ext O) (e : Endian) (cw w : Nat) (l : List Nat) (hcw : cw ≤ 8) (hl : l.length < 2 ^ 63)
    (buf : Bytes) (lf k : Nat) (hk : 2 ≤ k) :
    WSpec (runFn ext prog lf k (ixWNums e) [.u cw, .u w] [natsV l] buf) buf (writeNums cw w e l) := by
  rw [runFn_body ext (body := listBody e 1 2 (numsElem e)) (by cases e <;> rfl) (by omega)]
  refine wspec_writeList (Sim.listBody (by omega) hcw rfl natV l hl
    (by simp only [goir, natsV, List.length_map]) (by simp only [goir, natsV, List.map_map]; rfl)
    (fun _ => True) (fun _ => True) ?_ (fun _ _ => trivial) (fun _ => trivial))
  intro s a _ _
  refine (Sim.callW (o := .ok _) rfl (by simp only [goir])
    (ir_writeScalar ext e w a _ lf (k - 1) (by omega))).map_mono ?_
  rintro bs _ rfl
  exact ⟨by simp only [goir], trivial⟩

/-- the branch `return nil` is dead: `WriteFixedStringWithPadding` never fails -/
private def fixedsElem : Stmt :=
  .seq (.call ixWFixed [] [.var 5, .var 1, .var 2, .var 3] [some 6])
    (.ite (.cmp .ne (.var 6) .nilErr) (.ret [.nilErr]) .skip)

theorem ir_writeFixeds (ext : Ext O) (e : Endian) (cw n p : Nat) (left : Bool) (l : List Bytes) (hcw : cw ≤ 8)
    (hl : l.length < 2 ^ 63) (buf : Bytes) (lf k : Nat) (hk : 3 ≤ k) :
    WSpec (runFn ext prog lf k (ixWFixeds e) [.u cw] [.strs l, natV n, natV p, .bool left] buf) buf
      (writeFixeds cw n (UInt8.ofNat p) left e l) := by
  rw [runFn_body ext (body := listBody e 4 5 fixedsElem) (by cases e <;> rfl) (by omega)]
  refine wspec_writeList (Sim.listBody (by omega) hcw rfl V.bytes l hl
    (by simp only [goir]) (by simp only [goir])
    (fun s => s.loc 1 = natV n ∧ s.loc 2 = natV p ∧ s.loc 3 = .bool left) (fun _ => True) ?_ (fun _ _ => trivial)
    (fun _ => by simp only [goir, Nat.reduceEqDiff]))
  rintro s a ⟨h1, h2, h3⟩ -
  have hw := ir_writeFixed ext a n p left s.buf lf (k - 1) (by omega)
  simp only [natV_def] at hw
  simp only [fixedsElem, goir, Nat.reduceEqDiff, h1, h2, h3, hw, Outcome.map_ok]

theorem ir_writeFixedsDef (ext : Ext O) (e : Endian) (cw n : Nat) (l : List Bytes) (hcw : cw ≤ 8)
    (hl : l.length < 2 ^ 63) (buf : Bytes) (lf k : Nat) (hk : 4 ≤ k) :
    WSpec (runFn ext prog lf k (ixWFixedsDef e) [.u cw] [.strs l, natV n] buf) buf
      (writeFixeds cw n 0x20 false e l) := by
  rw [runFn_body ext
    (body := .seq (.call (ixWFixeds e) [.param 0] [.var 0, .var 1, .int 32, .bool false] [some 2]) (.ret [.var 2]))
    (by cases e <;> rfl) (by omega)]
  exact WSpec.tailcall rfl rfl (ir_writeFixeds ext e cw n 32 false l hcw hl buf lf (k - 1) (by omega))

private def vstrsElem (e : Endian) : Stmt :=
  .seq (.seq (.call ixWriteLen [.param 1] [.order e, .len (.var 2)] [some 3])
      (.ite (.cmp .ne (.var 3) .nilErr) (.ret [.var 3]) .skip))
    (.bufWrite (.var 2) none none)

theorem ir_writeVstrs (ext : Ext O) (e : Endian) (cw pw : Nat) (l : List Bytes) (hcw : cw ≤ 8) (hpw : pw ≤ 8)
    (hl : l.length < 2 ^ 63) (hs : ∀ s ∈ l, s.length < 2 ^ 63) (buf : Bytes) (lf k : Nat) (hk : 2 ≤ k) :
    WSpec (runFn ext prog lf k (ixWVstrs e) [.u cw, .u pw] [.strs l] buf) buf (writeVstrs cw pw e l) := by
  rw [runFn_body ext (body := listBody e 1 2 (vstrsElem e)) (by cases e <;> rfl) (by omega)]
  refine wspec_writeList (Sim.listBody (by omega) hcw rfl V.bytes l hl
    (by simp only [goir]) (by simp only [goir]) (fun _ => True) (fun a => a.length < 2 ^ 63) ?_ hs (fun _ => trivial))
  intro s a _ ha
  refine Sim.map.2 (Sim.map.2 (Sim.seq_last (Sim.callW rfl (by simp only [goir])
    (ir_writeLen ext e pw a.length hpw ha _ lf (k - 1) (by omega))) ?_))
  rintro c _ rfl
  simp only [goir, Nat.reduceEqDiff, List.append_assoc]

private def objsElem : Stmt :=
  .seq (.objEncode (.var 2) (some 3)) (.ite (.cmp .ne (.var 3) .nilErr) (.ret [.var 3]) .skip)

/-- object lists: `f` is the element encoder of the interpreter (it threads the buffer and returns the updated element) -/
theorem ir_writeObjs (ext : Ext Val) (f : Val → E Val) (hext : ∀ o b, ext.enc o b = (f o b).map (·.2))
    (e : Endian) (cw : Nat) (t : Ty) (l : List Val) (hcw : cw ≤ 8) (hl : l.length < 2 ^ 63)
    (buf : Bytes) (lf k : Nat) (hk : 2 ≤ k) :
    WSpecE (runFn ext prog lf k (ixWObjs e) [.u cw, t] [.objs l] buf)
      ((bindE (emit () (writeLen cw e l.length)) (fun _ => encAll f l)) buf) := by
  rw [runFn_body ext (body := listBody e 1 2 objsElem) (by cases e <;> rfl) (by omega)]
  refine wspecE_encList (Sim.listBody (by omega) hcw rfl V.obj l hl (by simp only [goir]) (by simp only [goir])
    (fun _ => True) (fun _ => True) ?_ (fun _ _ => trivial) (fun _ => trivial))
  intro s a _ _
  have h := hext a s.buf
  cases hf : f a s.buf <;> rw [hf] at h <;>
    simp only [objsElem, goir, h, Outcome.map_ok, Outcome.map_err, Outcome.map_panic]

end FinProto.GoIR
