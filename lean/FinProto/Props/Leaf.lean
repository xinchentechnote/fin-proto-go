/-
  Six of the ten statements are leaves: a primitive writer paired with a primitive reader.  The encoder
  returns the field value unchanged and looks at nothing else; the decoder looks at nothing else either.
  What the interpreter does with a leaf is said here once, and what a property needs of the primitives is
  one lemma about `(Op.write, Op.read)`.
-/
import FinProto.Props.SideConds
import FinProto.Props.PrimLemmas
namespace FinProto

def Op.isLeaf : Op → Bool
  | .nested .. | .objs .. | .union .. | .opaque => false
  | _ => true

def Op.read : Op → R Val
  | .scalar w e => mapR Val.num (readScalar w e)
  | .fixed n pad left => mapR Val.str (readFixed n (UInt8.ofNat pad) left)
  | .vstr pw e => mapR Val.str (readVstr pw e)
  | .nums cw w e => mapR Val.nums (readNums cw w e)
  | .fixeds cw n pad left e => mapR Val.strs (readFixeds cw n (UInt8.ofNat pad) left e)
  | .vstrs cw pw e => mapR Val.strs (readVstrs cw pw e)
  | _ => failR

/-- `none`: the value is not of the statement's kind -/
def Op.write : Op → Val → Option (Outcome Bytes)
  | .scalar w e, .num n => some (.ok (writeScalar w e n))
  | .fixed n pad left, .str s => some (.ok (writeFixed n (UInt8.ofNat pad) left s))
  | .vstr pw e, .str s => some (writeVstr pw e s)
  | .nums cw w e, .nums l => some (writeNums cw w e l)
  | .fixeds cw n pad left e, .strs l => some (writeFixeds cw n (UInt8.ofNat pad) left e l)
  | .vstrs cw pw e, .strs l => some (writeVstrs cw pw e l)
  | _, _ => none

theorem Op.leafCases {motive : Op → Prop} (leaf : ∀ op, op.isLeaf = true → motive op)
    (nested : ∀ ty g, motive (.nested ty g)) (objs : ∀ cw ty e, motive (.objs cw ty e))
    (union : ∀ key tbl g, motive (.union key tbl g)) («opaque» : motive .opaque) : ∀ op, motive op := by
  intro op
  cases op
  case nested => exact nested ..
  case objs => exact objs ..
  case union => exact union ..
  case «opaque» => exact «opaque»
  all_goals exact leaf _ rfl

theorem decOp_leaf (env : Env) (dT : Nat → R Val) (acc : List Val) {op : Op} (h : op.isLeaf = true) :
    decOp env dT acc op = op.read := by
  cases op <;> first | rfl | cases h

theorem encOp_leaf (env : Env) (enc : Nat → Val → E Val) (zero : Nat → Val) (all : List Val) {op : Op}
    (h : op.isLeaf = true) (v : Val) :
    encOp env enc zero all op v = match op.write v with
      | some o => emit v o
      | none => errE := by
  cases op <;> first | (cases v <;> rfl) | cases h

theorem encOp_leaf_eq_ok {env : Env} {enc : Nat → Val → E Val} {zero : Nat → Val} {all : List Val} {op : Op}
    (h : op.isLeaf = true) {v v' : Val} {pre out : Bytes} :
    encOp env enc zero all op v pre = .ok (v', out) ↔ ∃ bs, op.write v = some (.ok bs) ∧ v' = v ∧ out = pre ++ bs := by
  rw [encOp_leaf env enc zero all h]
  cases op.write v with
  | none => exact ⟨fun h => (by cases h), fun ⟨_, h, _⟩ => (by cases h)⟩
  | some o =>
    simp only [Option.some.injEq]
    exact emit_eq_ok

theorem fixedCanon_iff {n : Nat} {pad : UInt8} {left : Bool} {s : Bytes} :
    fixedCanon n pad left s = true ↔ fixedCanon' n pad left s := by
  cases left <;> simp [fixedCanon, fixedCanon']

theorem canonOp_nested {env : Env} {cT : Nat → Val → Bool} {all : List Val} {ty : Nat} {g : Guard} {v : Val} :
    canonOp env cT all (.nested ty g) v = true ↔ ∃ fs, v = .msg ty fs ∧ cT ty v = true := by
  cases v <;> simp [canonOp, isMsgOf]

theorem canonOp_objs {env : Env} {cT : Nat → Val → Bool} {all : List Val} {cw ty : Nat} {e : Endian} {v : Val} :
    canonOp env cT all (.objs cw ty e) v = true ↔
      ∃ l, v = .msgs l ∧ l.length < 256 ^ cw ∧ ∀ x ∈ l, isMsgOf ty x = true ∧ cT ty x = true := by
  cases v <;> simp [canonOp]

theorem canonOp_union {env : Env} {cT : Nat → Val → Bool} {all : List Val} {key tbl : Nat} {g : Guard} {v : Val} :
    canonOp env cT all (.union key tbl g) v = true ↔
      ∃ ty fs, unionTy env key tbl all = some ty ∧ v = .msg ty fs ∧ cT ty v = true := by
  simp only [canonOp]
  cases unionTy env key tbl all with
  | none => simp
  | some ty => cases v <;> simp [isMsgOf]

theorem canonTy_plain {env : Env} {f ty : Nat} {td : TyDef} {fields : List Val}
    (htd : env.types[ty]? = some td) (hfr : td.frame = none) :
    canonTy env (f + 1) ty (.msg ty fields) = canonSeq (canonOp env (canonTy env f) fields) td.enc fields := by
  simp only [canonTy, beq_self_eq_true, Bool.true_and, htd, hfr]

theorem canonTy_frame {env : Env} {f ty : Nat} {td : TyDef} {fd : FrameDesc} {fields : List Val}
    (htd : env.types[ty]? = some td) (hfr : td.frame = some fd) :
    canonTy env (f + 1) ty (.msg ty fields) = true ↔
      fields.length = td.nfields ∧
      canonSeq (canonOp env (canonTy env f) fields) fd.hdr (fields.take fd.hdr.length) = true ∧
      ∃ body, fields[fd.hdr.length + 1]? = some body ∧
        canonOp env (canonTy env f) fields (.union fd.key fd.tbl fd.g) body = true := by
  simp only [canonTy, beq_self_eq_true, Bool.true_and, htd, hfr, Bool.and_eq_true, decide_eq_true_eq, and_assoc]
  cases fields[fd.hdr.length + 1]? with
  | none => simp
  | some body => simp

/-- C01 at a leaf (and C07: what follows `bs` is arbitrary) -/
theorem Op.read_write {env : Env} {cT : Nat → Val → Bool} {all : List Val} {op : Op}
    (hw : op.widthsOK = true) {v : Val} (hc : canonOp env cT all op v = true) {bs : Bytes}
    (h : op.write v = some (.ok bs)) : Reads op.read bs v := by
  revert h
  -- the six equations of `Op.write` that return `some`, in their order; the seventh (`none`) contradicts `h`
  fun_cases Op.write op v <;> intro h <;> first | (cases h; done) | replace h := Option.some.inj h
  all_goals simp only [canonOp, Op.widthsOK, Bool.and_eq_true, decide_eq_true_eq, List.all_eq_true] at hc hw
  all_goals refine Reads.map ?_ rfl
  · cases h
    exact readScalar_writeScalar hc
  · cases h
    exact readFixed_writeFixed (fixedCanon_iff.mp hc)
  · exact fun _ => readVstr_writeVstr (width124_le_seven hw) h
  · exact fun _ => readNums_writeNums (width124_le_seven hw.1) hc.2 h
  · exact fun _ => readFixeds_writeFixeds (width124_le_seven hw.1.1) (fun s hs => fixedCanon_iff.mp (hc.2 s hs)) h
  · exact fun _ => readVstrs_writeVstrs (width124_le_seven hw.1) (width124_le_seven hw.2) h

/-- C08 at a leaf -/
theorem Op.write_read {op : Op} {b r : Bytes} {v : Val} (h : op.read b = .ok (v, r)) :
    ∃ c, b = c ++ r ∧ op.write v = some (.ok c) := by
  cases op <;> first | cases h | skip
  all_goals obtain ⟨a, ha, rfl⟩ := mapR_eq_ok.mp h
  · exact ⟨_, (writeScalar_readScalar ha).1, rfl⟩
  · exact ⟨_, (writeFixed_readFixed ha).1, rfl⟩
  · obtain ⟨c, hb, hw⟩ := writeVstr_readVstr ha
    exact ⟨c, hb, congrArg some hw⟩
  · obtain ⟨c, hb, hw⟩ := writeNums_readNums ha
    exact ⟨c, hb, congrArg some hw⟩
  · obtain ⟨c, hb, hw⟩ := writeFixeds_readFixeds ha
    exact ⟨c, hb, congrArg some hw⟩
  · obtain ⟨c, hb, hw⟩ := writeVstrs_readVstrs ha
    exact ⟨c, hb, congrArg some hw⟩

/-- C17 at a leaf -/
theorem Op.write_ne_panic (op : Op) (v : Val) : op.write v ≠ some .panic := by
  fun_cases Op.write op v
  · exact fun h => by cases h
  · exact fun h => by cases h
  · exact fun h => writeVstr_ne_panic _ _ _ (Option.some.inj h)
  · exact fun h => writeList_ne_panic _ _ (fun _ _ h => by cases h) (Option.some.inj h)
  · exact fun h => writeList_ne_panic _ _ (fun _ _ h => by cases h) (Option.some.inj h)
  · exact fun h => writeList_ne_panic _ _ (fun _ _ => writeVstr_ne_panic _ _ _) (Option.some.inj h)
  · exact fun h => by cases h

end FinProto
