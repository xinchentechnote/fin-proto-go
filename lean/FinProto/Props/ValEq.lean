/-
  A Boolean equality test on wire values (`Val` is nested through `List Val`, which `deriving DecidableEq` does not
  handle), so that a test vector, a concrete run of the encoder or a decoder ending in `ok (v, bs)`, is a finite fact
  the kernel evaluates: `Outcome.ok_of_eqb (by decide +kernel)`.
-/
import FinProto.Schema
import FinProto.Outcome
namespace FinProto

mutual
  def Val.eqb : Val → Val → Bool
    | .num a, .num b => a == b
    | .str a, .str b => a == b
    | .nums a, .nums b => a == b
    | .strs a, .strs b => a == b
    | .msg t a, .msg u b => t == u && Val.eqbL a b
    | .msgs a, .msgs b => Val.eqbL a b
    | .nil, .nil => true
    | _, _ => false
  def Val.eqbL : List Val → List Val → Bool
    | [], [] => true
    | a :: as, b :: bs => Val.eqb a b && Val.eqbL as bs
    | _, _ => false
end

theorem Val.eqb_sound :
    (∀ a b : Val, Val.eqb a b = true → a = b) ∧ ∀ a b : List Val, Val.eqbL a b = true → a = b := by
  apply Val.eqb.mutual_induct <;> intros <;>
    simp_all only [Val.eqb, Val.eqbL, beq_iff_eq, Bool.and_eq_true, Bool.false_eq_true]

theorem Outcome.ok_of_eqb {o : Outcome (Val × Bytes)} {v : Val} {bs : Bytes}
    (h : (match o with
      | .ok p => Val.eqb p.1 v && p.2 == bs
      | _ => false) = true) : o = .ok (v, bs) := by
  cases o with
  | ok p =>
    simp only [Bool.and_eq_true, beq_iff_eq] at h
    rw [← Val.eqb_sound.1 _ _ h.1, ← h.2]
  | err => cases h
  | panic => cases h

end FinProto
