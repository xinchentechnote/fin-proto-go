/-
  How a piece of a translated body tracks an outcome of the model.  The model's writers and readers are built with
  `Outcome.bind` / `Outcome.map`; a Go body is a sequence of statements of which every fallible one is followed by
  `if err != nil { return …, err }`.  `Sim` relates the two, and `Sim.seq` is the one rule that lets a proof follow the
  `bind`s of the model along the `seq`s of the body: the error and panic cases are disposed of there, once.
-/
import FinProto.Props.GoIRKit
import FinProto.Props.PrimLemmas
namespace FinProto.GoIR
open FinProto

/-- `r` tracks `o`: on `ok a` it is what `P a` says (for a piece in the middle of a body: normal completion, `Sim.norm`;
    for a whole body: the `return` of the result); on `err` it is an early `return` of values of the shape `E`
    (`[err]` in a writer, `[zero, err]` in a reader) -/
def Sim (E : List (V O) → Prop) (P : α → Res O → Prop) (r : Res O) : Outcome α → Prop
  | .ok a => P a r
  | .err => ∃ vs s', r = .ret vs s' ∧ E vs
  | .panic => r = .panic

def Sim.norm (Q : α → St O → Prop) (a : α) (r : Res O) : Prop := ∃ s', r = .norm s' ∧ Q a s'

@[goir] theorem Sim.norm_norm {Q : α → St O → Prop} {a : α} {s' : St O} : Sim.norm Q a (.norm s') ↔ Q a s' :=
  ⟨fun ⟨_, h, hq⟩ => by cases h; exact hq, fun h => ⟨_, rfl, h⟩⟩

@[goir] theorem Sim.ok_iff {E : List (V O) → Prop} {P : α → Res O → Prop} {r : Res O} {a : α} :
    Sim E P r (.ok a) ↔ P a r := Iff.rfl

theorem Sim.norm_ok {E : List (V O) → Prop} {Q : α → St O → Prop} {a : α} {s : St O} (h : Q a s) :
    Sim E (Sim.norm Q) (.norm s) (.ok a) :=
  Sim.ok_iff.2 (Sim.norm_norm.2 h)

theorem Sim.err_iff {E : List (V O) → Prop} {P : α → Res O → Prop} {r : Res O} :
    Sim E P r .err ↔ ∃ vs s', r = .ret vs s' ∧ E vs := Iff.rfl

@[goir] theorem Sim.err_ret {E : List (V O) → Prop} {P : α → Res O → Prop} {vs : List (V O)} {s' : St O} :
    Sim E P (.ret vs s') .err ↔ E vs :=
  ⟨fun ⟨_, _, h, he⟩ => by cases h; exact he, fun h => ⟨_, _, rfl, h⟩⟩

@[goir] theorem Sim.panic_iff {E : List (V O) → Prop} {P : α → Res O → Prop} {r : Res O} :
    Sim E P r .panic ↔ r = .panic := Iff.rfl

theorem Sim.map {E : List (V O) → Prop} {P : β → Res O → Prop} {r : Res O} {o : Outcome α} {f : α → β} :
    Sim E P r (o.map f) ↔ Sim E (fun a => P (f a)) r o := by
  cases o <;> exact Iff.rfl

/-- The `match` of the conclusion is, literally, the right side of `exec.seq` (and of the `cons` equation of `rangeLoop`),
    so that `Sim.seq` is this rule by unfolding. -/
theorem Sim.bind {E : List (V O) → Prop} {Q : α → St O → Prop} {P : β → Res O → Prop} {r : Res O} {k : St O → Res O}
    {o : Outcome α} {f : α → Outcome β} (ha : Sim E (Sim.norm Q) r o) (hb : ∀ x s', Q x s' → Sim E P (k s') (f x)) :
    Sim E P (match (motive := Res O → Res O) r with | .norm s1 => k s1 | r => r) (o.bind f) := by
  cases o with
  | ok x => obtain ⟨s', rfl, hq⟩ := ha; exact hb x s' hq
  | err => obtain ⟨vs, s', rfl, he⟩ := ha; exact ⟨vs, s', rfl, he⟩
  | panic => rw [show r = .panic from ha]; rfl

theorem Sim.map_mono {E : List (V O) → Prop} {Q : α → St O → Prop} {Q' : β → St O → Prop} {r : Res O} {o : Outcome α}
    {f : α → β} (h : Sim E (Sim.norm Q) r o) (hQ : ∀ a s', Q a s' → Q' (f a) s') : Sim E (Sim.norm Q') r (o.map f) := by
  cases o with
  | ok a => obtain ⟨s', hr, hq⟩ := h; exact ⟨s', hr, hQ a s' hq⟩
  | err => exact h
  | panic => exact h

/-! What the specifications `WSpec` and `RSpec` of `GoIRSpec.lean` say at each outcome. -/

theorem WSpec.ok_iff {r : CallRes O} {buf bs : Bytes} : WSpec r buf (.ok bs) ↔ r = .ret [.err false] (buf ++ bs) := Iff.rfl
theorem WSpec.err_iff {r : CallRes O} {buf : Bytes} : WSpec r buf .err ↔ ∃ b', r = .ret [.err true] b' := Iff.rfl
theorem WSpec.panic_iff {r : CallRes O} {buf : Bytes} : WSpec r buf .panic ↔ r = .panic := Iff.rfl

theorem WSpecE.ok_iff {r : CallRes O} {p : α × Bytes} : WSpecE r (.ok p) ↔ r = .ret [.err false] p.2 := Iff.rfl
theorem WSpecE.err_iff {r : CallRes O} : WSpecE r (.err : Outcome (α × Bytes)) ↔ ∃ b', r = .ret [.err true] b' := Iff.rfl
theorem WSpecE.panic_iff {r : CallRes O} : WSpecE r (.panic : Outcome (α × Bytes)) ↔ r = .panic := Iff.rfl

theorem RSpec.ok_iff {r : CallRes O} {inj : α → V O} {p : α × Bytes} :
    RSpec r inj (.ok p) ↔ r = .ret [inj p.1, .err false] p.2 := Iff.rfl
theorem RSpec.err_iff {r : CallRes O} {inj : α → V O} : RSpec r inj .err ↔ ∃ v b', r = .ret [v, .err true] b' := Iff.rfl
theorem RSpec.panic_iff {r : CallRes O} {inj : α → V O} : RSpec r inj .panic ↔ r = .panic := Iff.rfl

section
variable {ext : Ext O} {callee : Nat → List Ty → List (V O) → Bytes → CallRes O} {lf : Nat} {targs : List Ty}

theorem Sim.seq_last {E : List (V O) → Prop} {Q : α → St O → Prop} {P : α → Res O → Prop} {a b : Stmt} {s : St O}
    {o : Outcome α} (ha : Sim E (Sim.norm Q) (exec ext callee lf targs a s) o)
    (hb : ∀ x s', Q x s' → P x (exec ext callee lf targs b s')) :
    Sim E P (exec ext callee lf targs (.seq a b) s) o := by
  have h := Sim.bind (f := .ok) ha hb
  rwa [show o.bind .ok = o by cases o <;> rfl] at h

theorem Sim.seq {E : List (V O) → Prop} {Q : α → St O → Prop} {P : β → Res O → Prop} {a b : Stmt} {s : St O}
    {o : Outcome α} {f : α → Outcome β} (ha : Sim E (Sim.norm Q) (exec ext callee lf targs a s) o)
    (hb : ∀ x s', Q x s' → Sim E P (exec ext callee lf targs b s') (f x)) :
    Sim E P (exec ext callee lf targs (.seq a b) s) (o.bind f) :=
  Sim.bind ha hb

/-- `err := f(buf, args…); if err != nil { return err }` for a writer `f` that computes `o` -/
theorem Sim.callW {f : Nat} {tas : List TyRef} {tas' : List Ty} {args : List Expr} {vs : List (V O)} {d : Nat} {s : St O}
    {o : Outcome Bytes} (htas : resolveAll targs tas = some tas') (hargs : evalArgs targs s args = some vs)
    (hcal : WSpec (callee f tas' vs s.buf) s.buf o) :
    Sim (· = [.err true]) (Sim.norm fun bs s' => s' = ({ s with buf := s.buf ++ bs } : St O).set d (.err false))
      (exec ext callee lf targs
        (.seq (.call f tas args [some d]) (.ite (.cmp .ne (.var d) .nilErr) (.ret [.var d]) .skip)) s) o := by
  cases o with
  | ok bs => exact ⟨_, by simp only [goir, htas, hargs, WSpec.ok_iff.1 hcal], rfl⟩
  | err =>
    obtain ⟨b', hcal⟩ := WSpec.err_iff.1 hcal
    exact ⟨_, _, by simp only [goir, htas, hargs, hcal]; rfl, rfl⟩
  | panic => simp only [goir, htas, hargs, WSpec.panic_iff.1 hcal]

/-- `v, err := f(buf, args…); if err != nil { return nil, err }` for a reader `f` that computes `o` -/
theorem Sim.callR {f : Nat} {tas : List TyRef} {tas' : List Ty} {args : List Expr} {vs : List (V O)} {xa xe : Nat}
    {s : St O} {inj : α → V O} {o : Outcome (α × Bytes)} {z : Expr} {zv : V O}
    (hz : ∀ s : St O, evalE targs s z = some zv)
    (htas : resolveAll targs tas = some tas') (hargs : evalArgs targs s args = some vs)
    (hcal : RSpec (callee f tas' vs s.buf) inj o) :
    Sim (∃ v, · = [v, .err true])
      (Sim.norm fun p s' => s' = ((({ s with buf := p.2 } : St O).set xa (inj p.1)).set xe (.err false)))
      (exec ext callee lf targs
        (.seq (.call f tas args [some xa, some xe]) (.ite (.cmp .ne (.var xe) .nilErr) (.ret [z, .var xe]) .skip)) s) o := by
  cases o with
  | ok p => exact ⟨_, by simp only [goir, htas, hargs, RSpec.ok_iff.1 hcal], rfl⟩
  | err =>
    obtain ⟨v, b', hcal⟩ := RSpec.err_iff.1 hcal
    exact ⟨_, _, by simp only [goir, htas, hargs, hcal, hz]; rfl, _, rfl⟩
  | panic => simp only [goir, htas, hargs, RSpec.panic_iff.1 hcal]

/-- a variant without padding arguments hands its arguments on: `return f(buf, args…, ' ', false)` -/
theorem WSpec.tailcall {g : Nat} {tas : List TyRef} {tas' : List Ty} {args : List Expr} {vs : List (V O)} {d : Nat} {s : St O}
    {o : Outcome Bytes} (htas : resolveAll targs tas = some tas') (hargs : evalArgs targs s args = some vs)
    (h : WSpec (callee g tas' vs s.buf) s.buf o) :
    WSpec (exec ext callee lf targs (.seq (.call g tas args [some d]) (.ret [.var d])) s).toCall s.buf o := by
  cases o with
  | ok bs => simp only [WSpec.ok_iff, goir, htas, hargs, WSpec.ok_iff.1 h]
  | err =>
    obtain ⟨b', h⟩ := WSpec.err_iff.1 h
    exact ⟨b', by simp only [goir, htas, hargs, h]⟩
  | panic => simp only [WSpec.panic_iff, goir, htas, hargs, WSpec.panic_iff.1 h]

theorem RSpec.tailcall {g : Nat} {tas : List TyRef} {tas' : List Ty} {args : List Expr} {vs : List (V O)} {x y : Nat}
    {s : St O} {inj : α → V O} {o : Outcome (α × Bytes)} (htas : resolveAll targs tas = some tas')
    (hargs : evalArgs targs s args = some vs) (h : RSpec (callee g tas' vs s.buf) inj o) (hxy : x ≠ y := by decide) :
    RSpec (exec ext callee lf targs (.seq (.call g tas args [some x, some y]) (.ret [.var x, .var y])) s).toCall inj o := by
  cases o with
  | ok p => simp only [RSpec.ok_iff, goir, htas, hargs, RSpec.ok_iff.1 h, hxy]
  | err =>
    obtain ⟨v, b', h⟩ := RSpec.err_iff.1 h
    exact ⟨v, b', by simp only [goir, htas, hargs, h, hxy]⟩
  | panic => simp only [RSpec.panic_iff, goir, htas, hargs, RSpec.panic_iff.1 h]

/-- `var t T; err := binary.Read(buf, order, &t); if err != nil { return zero, err }; n := int(t); rest`: the count or length
    prefix of a reader and its conversion to `int`.  `int(t)` of a 64-bit prefix with the top bit set is negative; the Go code
    goes on to a `make` with it, which panics (`hneg`), and the model has `lenGuard` for that. -/
theorem Sim.readLen {P : β × Bytes → Res O → Prop} {tp : TyRef} {w : Nat} (htp : resolve targs tp = some (.u w)) (hw : w ≤ 8)
    (e : Endian) {x0 x1 x2 : Nat} {z : Expr} {zv : V O} (hz : ∀ s : St O, evalE targs s z = some zv)
    {rest : Stmt} {s : St O} (k : Nat → R β)
    (hok : ∀ (n : Nat) b, n < 2 ^ 63 → Sim (∃ v, · = [v, .err true]) P
      (exec ext callee lf targs rest
        (((({ buf := b, loc := (s.set x0 (.int 0)).loc } : St O).set x0 (.int n)).set x1 (.err false)).set x2 (.int n))) (k n b))
    (hneg : ∀ (n : Nat) b (m : Int), m < 0 →
      exec ext callee lf targs rest
        (((({ buf := b, loc := (s.set x0 (.int 0)).loc } : St O).set x0 (.int n)).set x1 (.err false)).set x2 (.int m)) = .panic)
    (h01 : x0 ≠ x1 := by decide) :
    Sim (∃ v, · = [v, .err true]) P
      (exec ext callee lf targs
        (.seq (.set x0 (.int 0))
          (.seq (.seq (.binRead (.order e) tp x0 (some x1)) (.ite (.cmp .ne (.var x1) .nilErr) (.ret [z, .var x1]) .skip))
            (.seq (.set x2 (.conv (.ty (.s 8)) (.var x0))) rest))) s)
      (bindR (readScalar w e) (fun n => lenGuard n (k n)) s.buf) := by
  rw [bindR, readScalar_eq]
  by_cases h : w ≤ s.buf.length
  · have hn := ofE_take_lt e h
    rw [if_pos h, Outcome.bind_ok]
    -- `rest` is made a variable so that `simp` stops in front of it
    generalize rest = tl at hok hneg ⊢
    simp only [goir, htp, h, h01, lenGuard]
    generalize ofE e (s.buf.take w) = n at hn ⊢
    rw [wrap_u_of_lt hn]
    by_cases h2 : n < 2 ^ 63
    · rw [if_pos h2, wrap_s8_of_lt h2]
      exact hok n _ h2
    · rw [if_neg h2]
      exact hneg n _ _ (wrap_s8_neg (Nat.le_of_not_gt h2) (Nat.lt_of_lt_of_le hn (pow256_le hw)))
  · rw [if_neg h]
    exact ⟨_, _, by simp only [goir, htp, h, hz]; rfl, _, rfl⟩

/-- the length prefix of a text reader, the check `if n > buf.Len() { return zero, err }` and `b := make([]byte, n)` -/
theorem Sim.readText {P : Bytes × Bytes → Res O → Prop} {tp : TyRef} {w : Nat} (htp : resolve targs tp = some (.u w))
    (hw : w ≤ 8) (e : Endian) {x0 x1 x2 x3 : Nat} {z : Expr} {zv : V O}
    (hz : ∀ s : St O, evalE targs s z = some zv) {rest : Stmt} {s : St O}
    (hrest : ∀ (n : Nat) b, n ≤ b.length →
      P (b.take n, b.drop n) (exec ext callee lf targs rest
        ((((({ buf := b, loc := (s.set x0 (.int 0)).loc } : St O).set x0 (.int n)).set x1 (.err false)).set x2 (.int n)).set x3
          (.bytes (List.replicate n 0))))) (h01 : x0 ≠ x1 := by decide) :
    Sim (∃ v, · = [v, .err true]) P
      (exec ext callee lf targs
        (.seq (.set x0 (.int 0))
          (.seq (.seq (.binRead (.order e) tp x0 (some x1)) (.ite (.cmp .ne (.var x1) .nilErr) (.ret [z, .var x1]) .skip))
            (.seq (.set x2 (.conv (.ty (.s 8)) (.var x0)))
              (.seq (.ite (.cmp .gt (.var x2) .bufLen) (.ret [z, .newErr]) .skip) (.seq (.makeBytes x3 (.var x2)) rest))))) s)
      (readVstr w e s.buf) := by
  refine Sim.readLen htp hw e hz takeN (fun n b _ => ?_) (fun n b m hm => ?_) h01
  · rw [takeN_eq]
    by_cases h3 : n ≤ b.length
    · have h3' : ¬ ((b.length : Int) < (n : Int)) := by omega
      rw [if_pos h3]
      generalize rest = tl at hrest ⊢
      simp only [goir, cop, gt_iff_lt, h3', decide_false, Int.natCast_nonneg, Int.toNat_natCast]
      exact hrest n b h3
    · have h3' : (b.length : Int) < (n : Int) := by omega
      rw [if_neg h3]
      exact ⟨_, _, by simp only [goir, cop, gt_iff_lt, h3', decide_true, hz]; rfl, _, rfl⟩
  · have h4 : ¬ (0 ≤ m) := by omega
    have h5 : ¬ ((b.length : Int) < m) := by omega
    simp only [goir, cop, gt_iff_lt, h5, decide_false, h4]

end

theorem wspecE_of_sim {r : Res O} {o : Outcome (α × Bytes)}
    (h : Sim (· = [.err true]) (fun p r => r.toCall = .ret [.err false] p.2) r o) : WSpecE r.toCall o := by
  cases o with
  | ok p => exact WSpecE.ok_iff.2 (Sim.ok_iff.1 h)
  | err =>
    obtain ⟨_, s', rfl, rfl⟩ := Sim.err_iff.1 h
    exact WSpecE.err_iff.2 ⟨_, rfl⟩
  | panic => exact WSpecE.panic_iff.2 (congrArg Res.toCall (Sim.panic_iff.1 h))

theorem wspec_of_sim {r : Res O} {buf : Bytes} {o : Outcome Bytes}
    (h : Sim (· = [.err true]) (fun bs r => r.toCall = .ret [.err false] (buf ++ bs)) r o) : WSpec r.toCall buf o := by
  have := wspecE_of_sim (o := o.map fun bs => ((), buf ++ bs)) (Sim.map.2 h)
  cases o <;> exact this

theorem rspec_of_sim {r : Res O} {inj : α → V O} {o : Outcome (α × Bytes)}
    (h : Sim (∃ v, · = [v, .err true]) (fun p r => r.toCall = .ret [inj p.1, .err false] p.2) r o) :
    RSpec r.toCall inj o := by
  cases o with
  | ok p => exact RSpec.ok_iff.2 (Sim.ok_iff.1 h)
  | err =>
    obtain ⟨_, s', rfl, v, rfl⟩ := Sim.err_iff.1 h
    exact RSpec.err_iff.2 ⟨_, _, rfl⟩
  | panic => exact RSpec.panic_iff.2 (congrArg Res.toCall (Sim.panic_iff.1 h))

end FinProto.GoIR
