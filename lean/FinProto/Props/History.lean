/-
  The invocation/return history `hist` against `lin`, the calls in the order they released the lock, for
  any type `σ` of thread states: `call x` is the call a thread in state `x` has invoked and not yet
  linearised, `retd x` the (call, result) it has linearised and not yet returned.  The invariant says that
  `lin` agrees with `hist` thread by thread (`SeqOK`) and respects real-time order (`RTO`); it is kept by the
  four kinds of step of one thread.  Nothing here looks at the lock or the map.
-/
import FinProto.Props.LockOK
namespace FinProto.Reg

def isInvOf (t : Tid) : Event → Bool
  | .inv t' _ => t' == t
  | _ => false

def invCall (t : Tid) : Event → Option Call
  | .inv t' c => if t' = t then some c else none
  | _ => none

def retOf (t : Tid) : Event → Option (Call × Res)
  | .ret t' c r => if t' = t then some (c, r) else none
  | _ => none

theorem mem_of_count_le {α β : Type} [BEq α] [LawfulBEq α] [BEq β] [LawfulBEq β] {a : α} {b : β} {l1 : List α}
    {l2 : List β} (h : l1.count a ≤ l2.count b) (hm : a ∈ l1) : b ∈ l2 :=
  List.count_pos_iff.mp (Nat.lt_of_lt_of_le (List.count_pos_iff.mpr hm) h)

theorem filterMap_snoc {α β : Type} (f : α → Option β) (l : List α) (a : α) :
    (l ++ [a]).filterMap f = l.filterMap f ++ (f a).toList := by
  cases h : f a <;> simp [h]

theorem length_filterMap_invCall (t : Tid) (h : List Event) :
    (h.filterMap (invCall t)).length = h.countP (isInvOf t) := by
  induction h with
  | nil => rfl
  | cons e h ih =>
    cases e with
    | inv t' c => by_cases e : t' = t <;> simp [invCall, isInvOf, e, ih]
    | ret t' c r => simp [List.filterMap_cons, invCall, isInvOf, ih]

theorem count_filterMap_retOf (t : Tid) (c : Call) (r : Res) (h : List Event) :
    (h.filterMap (retOf t)).count (c, r) = h.count (.ret t c r) := by
  induction h with
  | nil => rfl
  | cons e h ih =>
    cases e with
    | inv t' c' => simp [List.filterMap_cons, retOf, ih]
    | ret t' c' r' => by_cases e : t' = t <;> simp [retOf, List.count_cons, e, ih]

theorem count_lin_of (t : Tid) (c : Call) (r : Res) (l : List (Tid × Call × Res)) :
    ((l.filter (fun x => x.1 == t)).map (fun x => x.2)).count (c, r) = l.count (t, c, r) := by
  induction l with
  | nil => rfl
  | cons x l ih =>
    obtain ⟨u, c', r'⟩ := x
    by_cases e : u = t <;> simp [List.count_cons, e, ih]

section
variable {σ : Type} {call : σ → Option Call} {retd : σ → Option (Call × Res)}
  {hist : List Event} {lin : List (Tid × Call × Res)} {st : Tid → σ}

def SeqOK (call : σ → Option Call) (retd : σ → Option (Call × Res)) (hist : List Event)
    (lin : List (Tid × Call × Res)) (st : Tid → σ) : Prop :=
  ∀ t,
    hist.filterMap (invCall t) =
      (lin.filter (fun x => x.1 == t)).map (fun x => x.2.1) ++ (call (st t)).toList ∧
    hist.filterMap (retOf t) ++ (retd (st t)).toList =
      (lin.filter (fun x => x.1 == t)).map (fun x => x.2)

theorem SeqOK.inv_count (h : SeqOK call retd hist lin st) (t : Tid) :
    hist.countP (isInvOf t) =
      lin.countP (fun x => x.1 == t) + (if (call (st t)).isSome = true then 1 else 0) := by
  have := congrArg List.length (h t).1
  rw [length_filterMap_invCall] at this
  rw [this, List.length_append, List.length_map, ← List.countP_eq_length_filter]
  cases call (st t) <;> rfl

theorem SeqOK.inv_count_idle (h : SeqOK call retd hist lin st) {t : Tid} {y : σ} (e : st t = y)
    (hc : call y = none) : lin.countP (fun x => x.1 == t) = hist.countP (isInvOf t) := by
  have := h.inv_count t
  rw [e, hc] at this
  exact this.symm

theorem SeqOK.ret_count (h : SeqOK call retd hist lin st) (t : Tid) (c : Call) (r : Res) :
    hist.count (.ret t c r) ≤ lin.count (t, c, r) := by
  have := congrArg (List.count (c, r)) (h t).2
  rw [List.count_append, count_filterMap_retOf, count_lin_of] at this
  omega

theorem SeqOK.ret_mem (h : SeqOK call retd hist lin st) {t : Tid} {c : Call} {r : Res}
    (hm : Event.ret t c r ∈ hist) : (t, c, r) ∈ lin :=
  mem_of_count_le (h.ret_count t c r) hm

/-- A call that returned before another was invoked is linearised before it: at every invocation event
    `lin` has a cut with the earlier returns (with multiplicity) before it and, of the invoking thread, only
    the entries of its earlier invocations. -/
def RTO (hist : List Event) (lin : List (Tid × Call × Res)) : Prop :=
  ∀ h1 t' c' h3, hist = h1 ++ Event.inv t' c' :: h3 →
    ∃ l1 l2, lin = l1 ++ l2 ∧
      (∀ t c r, h1.count (.ret t c r) ≤ l1.count (t, c, r)) ∧
      l1.countP (fun x => x.1 == t') = h1.countP (isInvOf t')

theorem snoc_eq_split {α : Type} {h h1 h3 : List α} {e a : α} (hh : h ++ [e] = h1 ++ a :: h3) :
    (h3 = [] ∧ h = h1 ∧ e = a) ∨ ∃ h3', h3 = h3' ++ [e] ∧ h = h1 ++ a :: h3' := by
  rcases List.eq_nil_or_concat h3 with rfl | ⟨L, b, rfl⟩
  · left
    have := List.append_inj' hh rfl
    simp at this
    exact ⟨rfl, this.1, this.2⟩
  · right
    have hh' : h ++ [e] = (h1 ++ a :: L) ++ [b] := by simpa using hh
    have := List.append_inj' hh' rfl
    simp at this
    exact ⟨L, by simp [this.2], by simp [this.1]⟩

def HistOK (call : σ → Option Call) (retd : σ → Option (Call × Res)) (hist : List Event)
    (lin : List (Tid × Call × Res)) (st : Tid → σ) : Prop :=
  SeqOK call retd hist lin st ∧ RTO hist lin

theorem HistOK.init {x : σ} (hc : call x = none) (hr : retd x = none) : HistOK call retd [] [] (fun _ => x) :=
  ⟨fun t => by simp [hc, hr], fun h1 t' c' h3 hh => by simp at hh⟩

variable {t : Tid} {x y : σ}

theorem HistOK.internal (h : HistOK call retd hist lin st) (e : st t = y) (hc : call x = call y)
    (hr : retd x = retd y) : HistOK call retd hist lin (upd st t x) :=
  ⟨fun u => by rw [upd_view call e hc, upd_view retd e hr]; exact h.1 u, h.2⟩

theorem HistOK.invoke (h : HistOK call retd hist lin st) {c : Call} (e : st t = y) (hc0 : call y = none)
    (hc : call x = some c) (hr : retd x = retd y) :
    HistOK call retd (hist ++ [.inv t c]) lin (upd st t x) := by
  subst e
  constructor
  · intro u
    have := h.1 u
    -- the new event adds to the projections of thread `t` and to no other thread's
    rw [filterMap_snoc, filterMap_snoc]
    by_cases e : u = t
    · subst e
      rw [hc0] at this
      simp [upd_self, hc, hr, invCall, retOf, this]
    · have e' : ¬ t = u := fun x => e x.symm
      simpa [upd_of_ne e, e', invCall, retOf] using this
  · intro h1 t' c' h3 hh
    rcases snoc_eq_split hh with ⟨-, rfl, e⟩ | ⟨h3', -, e⟩
    · injection e with e1 e2
      subst e1 e2
      exact ⟨lin, [], by simp, h.1.ret_count, h.1.inv_count_idle rfl hc0⟩
    · exact h.2 h1 t' c' h3' e

theorem HistOK.release (h : HistOK call retd hist lin st) {c : Call} {r : Res} (e : st t = y)
    (hc0 : call y = some c) (hr0 : retd y = none) (hc : call x = none) (hr : retd x = some (c, r)) :
    HistOK call retd hist (lin ++ [(t, c, r)]) (upd st t x) := by
  subst e
  constructor
  · intro u
    have := h.1 u
    by_cases e : u = t
    · subst e
      rw [hc0, hr0] at this
      simp at this
      simp [upd_self, hc, hr, List.filter_append, this]
    · have e' : ¬ t = u := fun x => e x.symm
      simpa [upd_of_ne e, e', List.filter_append] using this
  · intro h1 t' c' h3 hh
    obtain ⟨l1, l2, e, a, b⟩ := h.2 h1 t' c' h3 hh
    exact ⟨l1, l2 ++ [(t, c, r)], by simp [e], a, b⟩

theorem HistOK.return (h : HistOK call retd hist lin st) {c : Call} {r : Res} (e : st t = y)
    (hr0 : retd y = some (c, r)) (hc : call x = call y) (hr : retd x = none) :
    HistOK call retd (hist ++ [.ret t c r]) lin (upd st t x) := by
  subst e
  constructor
  · intro u
    have := h.1 u
    rw [filterMap_snoc, filterMap_snoc]
    by_cases e : u = t
    · subst e
      rw [hr0] at this
      simp at this
      simp [upd_self, hc, hr, invCall, retOf, this]
    · have e' : ¬ t = u := fun x => e x.symm
      simpa [upd_of_ne e, e', invCall, retOf] using this
  · intro h1 t' c' h3 hh
    rcases snoc_eq_split hh with ⟨-, -, e⟩ | ⟨h3', -, e⟩
    · cases e
    · exact h.2 h1 t' c' h3' e

/-- real-time order as `real_time_order` / `preal_time` state it -/
theorem HistOK.real_time (h : HistOK call retd hist lin st) {h1 h3 : List Event} {t' : Tid} {c' : Call}
    (hh : hist = h1 ++ Event.inv t' c' :: h3) :
    ∃ l1 l2, lin = l1 ++ l2 ∧
      (∀ t c r, h1.count (.ret t c r) ≤ l1.count (t, c, r)) ∧
      (∀ t c r, Event.ret t c r ∈ h1 → (t, c, r) ∈ l1) ∧
      l1.countP (fun x => x.1 == t') = h1.countP (isInvOf t') ∧
      l2.countP (fun x => x.1 == t') + (if (call (st t')).isSome = true then 1 else 0)
        = (Event.inv t' c' :: h3).countP (isInvOf t') := by
  obtain ⟨l1, l2, e, a, b⟩ := h.2 h1 t' c' h3 hh
  refine ⟨l1, l2, e, a, fun t c r => mem_of_count_le (a t c r), b, ?_⟩
  have := h.1.inv_count t'
  rw [hh, e, List.countP_append, List.countP_append] at this
  omega

end

end FinProto.Reg
