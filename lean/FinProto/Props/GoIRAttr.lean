import Lean.Meta.Tactic.Simp.RegisterCommand

/-- one step of GoIR's semantics on a statement or expression of known head form, and the bookkeeping of frames -/
register_simp_attr goir
