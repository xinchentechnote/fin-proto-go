/-
  Property C16: decoded values never alias the source buffer; encoded bytes never alias the
  message.  Proofs for the memory model of `FinProto/Alias.lean`.
-/
import FinProto.Alias

namespace FinProto.Alias

theorem observe_isSome_iff (m : Mem) (r : Ref) :
    (observe m r).isSome ↔ ∃ bs, m.regions[r.region]? = some bs ∧ r.off + r.len ≤ bs.length := by
  unfold observe
  cases h : m.regions[r.region]? with
  | none => simp
  | some bs => by_cases hb : r.off + r.len ≤ bs.length <;> simp [hb]

theorem scribble_getElem?_ne (m : Mem) (g i : Nat) (f : List UInt8 → List UInt8) (h : g ≠ i) :
    (scribble m g f).regions[i]? = m.regions[i]? := by
  simp [scribble, List.getElem?_modify_ne _ _ h]

theorem observe_scribble_ne (m : Mem) (r : Ref) (g : Nat) (f : List UInt8 → List UInt8)
    (h : r.region ≠ g) : observe (scribble m g f) r = observe m r := by
  simp [observe, scribble_getElem?_ne _ _ _ _ (Ne.symm h)]

theorem observe_set_ne (m : Mem) (i : Nat) (new : List UInt8) (r : Ref) (h : r.region ≠ i) :
    observe ⟨m.regions.set i new⟩ r = observe m r := by
  simp [observe, List.getElem?_set_ne (Ne.symm h)]

theorem splice_length_ge (bs : List UInt8) (off : Nat) (data : List UInt8) (h : off ≤ bs.length) :
    bs.length ≤ (splice bs off data).length := by
  simp [splice]; omega

theorem splice_length_eq (bs : List UInt8) (off : Nat) (data : List UInt8)
    (h : off + data.length ≤ bs.length) : (splice bs off data).length = bs.length := by
  simp [splice]; omega

theorem observe_alloc (m : Mem) (bs : List UInt8) (r : Ref) (h : (observe m r).isSome) :
    (observe ⟨m.regions ++ [bs]⟩ r).isSome := by
  rw [observe_isSome_iff] at h ⊢
  obtain ⟨cs, hc, hl⟩ := h
  have hlt : r.region < m.regions.length := (List.getElem?_eq_some_iff.mp hc).1
  exact ⟨cs, by simp [List.getElem?_append_left hlt, hc], hl⟩

theorem observe_alloc_new (m : Mem) (bs : List UInt8) :
    observe ⟨m.regions ++ [bs]⟩ ⟨m.regions.length, 0, bs.length⟩ = some bs := by
  simp [observe]

theorem observe_set_isSome (m : Mem) (i : Nat) (old new : List UInt8) (r : Ref)
    (hold : m.regions[i]? = some old) (hlen : old.length ≤ new.length)
    (h : (observe m r).isSome) : (observe ⟨m.regions.set i new⟩ r).isSome := by
  by_cases hi : r.region = i
  · rw [observe_isSome_iff] at h ⊢
    obtain ⟨cs, hc, hl⟩ := h
    subst hi
    rw [hold] at hc; cases hc
    have hlt : r.region < m.regions.length := (List.getElem?_eq_some_iff.mp hold).1
    exact ⟨new, by simp [List.getElem?_set_self hlt], by omega⟩
  · rwa [observe_set_ne _ _ _ _ hi]

/-! What a successful `step` says of its input and its result, one lemma per instruction that can succeed
  (`make` always does, by computation; `ret` never does). -/

theorem step_readFull {dst : Nat} {s s' : State} (h : step (.readFull dst) s = some s') :
    ∃ r buf tgt, s.env dst = some r ∧ s.mem.regions[s.bufRegion]? = some buf ∧
      s.mem.regions[r.region]? = some tgt ∧
      (s.off + r.len ≤ s.valid ∧ s.valid ≤ buf.length ∧ r.off + r.len ≤ tgt.length) ∧
      s' = { s with mem := ⟨s.mem.regions.set r.region (splice tgt r.off ((buf.drop s.off).take r.len))⟩
                    off := s.off + r.len } := by
  simp only [step] at h
  split at h
  next r buf hr hbuf =>
    split at h
    next tgt htgt =>
      split at h
      next hc => exact ⟨r, buf, tgt, hr, hbuf, htgt, hc, (Option.some.inj h).symm⟩
      next => cases h
    next => cases h
  next => cases h

theorem step_toString {dst src : Nat} {s s' : State} (h : step (.toString dst src) s = some s') :
    ∃ r bs, s.env src = some r ∧ observe s.mem r = some bs ∧
      s' = { s with mem := ⟨s.mem.regions ++ [bs]⟩ }.setVar dst ⟨s.mem.regions.length, 0, bs.length⟩ := by
  simp only [step] at h
  split at h
  next r hr =>
    split at h
    next bs hbs => exact ⟨r, bs, hr, hbs, (Option.some.inj h).symm⟩
    next => cases h
  next => cases h

theorem step_sub {dst src a b : Nat} {s s' : State} (h : step (.sub dst src a b) s = some s') :
    ∃ r, s.env src = some r ∧ (a ≤ b ∧ b ≤ r.len) ∧ s' = s.setVar dst ⟨r.region, r.off + a, b - a⟩ := by
  simp only [step] at h
  split at h
  next r hr =>
    split at h
    next hc => exact ⟨r, hr, hc, (Option.some.inj h).symm⟩
    next => cases h
  next => cases h

theorem step_view {dst n : Nat} {s s' : State} (h : step (.view dst n) s = some s') :
    ∃ buf, s.mem.regions[s.bufRegion]? = some buf ∧ (s.off + n ≤ s.valid ∧ s.valid ≤ buf.length) ∧
      s' = { s with off := s.off + n }.setVar dst ⟨s.bufRegion, s.off, n⟩ := by
  simp only [step] at h
  split at h
  next buf hbuf =>
    split at h
    next hc => exact ⟨buf, hbuf, hc, (Option.some.inj h).symm⟩
    next => cases h
  next => cases h

theorem step_unsafeString {dst src : Nat} {s s' : State} (h : step (.unsafeString dst src) s = some s') :
    ∃ r, s.env src = some r ∧ s' = s.setVar dst r := by
  simp only [step] at h
  split at h
  next r hr => exact ⟨r, hr, (Option.some.inj h).symm⟩
  next => cases h

theorem step_write {src : Nat} {s s' : State} (h : step (.write src) s = some s') :
    ∃ r buf data, s.env src = some r ∧ s.mem.regions[s.bufRegion]? = some buf ∧
      observe s.mem r = some data ∧ s.valid ≤ buf.length ∧
      s' = { s with mem := ⟨s.mem.regions.set s.bufRegion (splice buf s.valid data)⟩
                    valid := s.valid + data.length } := by
  simp only [step] at h
  split at h
  next r buf hr hbuf =>
    split at h
    next data hdata =>
      split at h
      next hc => exact ⟨r, buf, data, hr, hbuf, hdata, hc, (Option.some.inj h).symm⟩
      next => cases h
    next => cases h
  next => cases h

/-- Invariant of a reader call, relative to the region count `n0` at entry and a taint `t` of the locals (`taintStep`
    updates it): a local the taint calls clean refers to a region allocated during the call. -/
structure Inv (n0 : Nat) (t : Nat → Bool) (s : State) : Prop where
  buf : s.bufRegion < n0
  len : n0 ≤ s.mem.regions.length
  obs : ∀ k r, s.env k = some r → (observe s.mem r).isSome
  fresh : ∀ k r, s.env k = some r → t k = false → n0 ≤ r.region

theorem Inv.of_initial {s : State} (h : s.Initial) (t : Nat → Bool) : Inv s.mem.regions.length t s :=
  ⟨h.1, Nat.le_refl _, fun k r hk => by simp [h.2 k] at hk, fun k r hk => by simp [h.2 k] at hk⟩

theorem Inv.setVar {n0 : Nat} {t : Nat → Bool} {s : State} (h : Inv n0 t s) (dst : Nat) (r : Ref)
    (b : Bool) (ho : (observe s.mem r).isSome) (hf : b = false → n0 ≤ r.region) :
    Inv n0 (fun k => if k = dst then b else t k) (s.setVar dst r) := by
  refine ⟨h.buf, h.len, fun k r' hk => ?_, fun k r' hk ht => ?_⟩ <;>
    simp only [State.setVar] at hk <;> split at hk
  · cases hk; exact ho
  · exact h.obs k r' hk
  · cases hk; rw [if_pos ‹_›] at ht; exact hf ht
  · rw [if_neg ‹_›] at ht; exact h.fresh k r' hk ht

theorem Inv.allocVar {n0 : Nat} {t : Nat → Bool} {s : State} (h : Inv n0 t s) (dst : Nat) (bs : List UInt8) :
    Inv n0 (fun k => if k = dst then false else t k)
      ({ s with mem := ⟨s.mem.regions ++ [bs]⟩ }.setVar dst ⟨s.mem.regions.length, 0, bs.length⟩) :=
  Inv.setVar (s := { s with mem := ⟨s.mem.regions ++ [bs]⟩ })
    ⟨h.buf, by have := h.len; simp only [List.length_append]; omega,
      fun k r hk => observe_alloc _ _ _ (h.obs k r hk), h.fresh⟩
    dst _ false (by rw [observe_alloc_new]; rfl) (fun _ => h.len)

theorem Inv.set {n0 : Nat} {t : Nat → Bool} {s : State} (h : Inv n0 t s) (i : Nat)
    (old new : List UInt8) (hold : s.mem.regions[i]? = some old) (hlen : old.length ≤ new.length)
    (off valid : Nat) :
    Inv n0 t { s with mem := ⟨s.mem.regions.set i new⟩, off := off, valid := valid } :=
  ⟨h.buf, by have := h.len; simpa using this,
    fun k r hk => observe_set_isSome _ _ _ _ _ hold hlen (h.obs k r hk), h.fresh⟩

theorem step_inv {i : Instr} {s s' : State} (hs : step i s = some s') :
    s'.bufRegion = s.bufRegion ∧
      ∀ {n0 : Nat} {t : Nat → Bool}, Inv n0 t s → Inv n0 (taintStep i t) s' := by
  cases i with
  | make dst n =>
      cases hs
      refine ⟨rfl, fun h => ?_⟩
      have := h.allocVar dst (List.replicate n 0)
      rwa [List.length_replicate] at this
  | readFull dst =>
      obtain ⟨r, buf, tgt, _, _, htgt, hc, rfl⟩ := step_readFull hs
      refine ⟨rfl, fun h => h.set _ tgt _ htgt (Nat.le_of_eq (Eq.symm ?_)) _ _⟩
      apply splice_length_eq
      simp only [List.length_take, List.length_drop]
      omega
  | toString dst src =>
      obtain ⟨r, bs, _, _, rfl⟩ := step_toString hs
      exact ⟨rfl, fun h => h.allocVar dst bs⟩
  | sub dst src a b =>
      obtain ⟨r, hr, hc, rfl⟩ := step_sub hs
      refine ⟨rfl, fun h => h.setVar dst _ _ ?_ (h.fresh src r hr)⟩
      obtain ⟨bs, hb, hl⟩ := (observe_isSome_iff _ _).mp (h.obs src r hr)
      exact (observe_isSome_iff _ _).mpr ⟨bs, hb, by simp only; omega⟩
  | view dst n =>
      obtain ⟨buf, hbuf, hc, rfl⟩ := step_view hs
      refine ⟨rfl, fun h => Inv.setVar (s := { s with off := s.off + n })
        ⟨h.buf, h.len, h.obs, h.fresh⟩ dst _ true ?_ (fun ht => nomatch ht)⟩
      exact (observe_isSome_iff _ _).mpr ⟨buf, hbuf, by simp only; omega⟩
  | unsafeString dst src =>
      obtain ⟨r, hr, rfl⟩ := step_unsafeString hs
      exact ⟨rfl, fun h => h.setVar dst r _ (h.obs src r hr) (h.fresh src r hr)⟩
  | write src =>
      obtain ⟨r, buf, data, _, hbuf, _, hc, rfl⟩ := step_write hs
      exact ⟨rfl, fun h => h.set s.bufRegion buf _ hbuf (splice_length_ge _ _ _ hc) _ _⟩
  | ret src => cases hs

theorem step_bufRegion {i : Instr} {s s' : State} (h : step i s = some s') :
    s'.bufRegion = s.bufRegion :=
  (step_inv h).1

theorem run_inv {n0 : Nat} {prog : Prog} {s s' : State} {r : Ref} {t : Nat → Bool}
    (h : run prog s = some (r, s')) (hinv : Inv n0 t s) :
    s'.bufRegion = s.bufRegion ∧ (observe s'.mem r).isSome ∧
      (retCleanFrom prog t = true → n0 ≤ r.region) := by
  induction prog generalizing s t with
  | nil => cases h
  | cons i rest ih =>
      cases i with
      | ret src =>
          obtain ⟨r0, hr0, heq⟩ := Option.map_eq_some_iff.mp h
          cases heq
          exact ⟨rfl, hinv.obs src _ hr0, fun hc =>
            hinv.fresh src _ hr0 (by simpa [retCleanFrom] using hc)⟩
      | _ =>
          -- `run (i :: rest) s` unfolds to `(step i s).bind (run rest)`, `retCleanFrom (i :: rest) t` to
          -- `retCleanFrom rest (taintStep i t)`: `h` and `hf` fit as they stand
          obtain ⟨s1, hst, h1⟩ := Option.bind_eq_some_iff.mp h
          obtain ⟨hb, hi⟩ := step_inv hst
          obtain ⟨hb', ho, hf⟩ := ih h1 (hi hinv)
          exact ⟨hb'.trans hb, ho, hf⟩

theorem retCleanFrom_copying {prog : Prog} {s : State} {x : Ref × State} {t : Nat → Bool}
    (hc : prog.copying = true) (ht : ∀ k, t k = false) (h : run prog s = some x) :
    retCleanFrom prog t = true := by
  induction prog generalizing s t with
  | nil => cases h
  | cons i rest ih =>
      have hc' : i.isView = false ∧ Prog.copying rest = true := by
        simpa [Prog.copying] using hc
      cases i with
      | ret src => simp [retCleanFrom, ht]
      | view dst n => cases hc'.1
      | _ =>
          obtain ⟨s1, _, h1⟩ := Option.bind_eq_some_iff.mp h
          exact ih hc'.2 (fun k => by simp only [taintStep, ht, ite_self]) h1

/-- **C16, decode side (1).**  A program without `view`, started in an initial state, returns a
    reference into a region allocated during the call (fresh), never into the buffer. -/
theorem noalias_return {prog : Prog} {s s' : State} {r : Ref}
    (hc : prog.copying = true) (hs : s.Initial) (hrun : run prog s = some (r, s')) :
    s.mem.regions.length ≤ r.region ∧ r.region ≠ s.bufRegion := by
  -- an initial state binds no local, so it has the invariant for any taint; here the empty one
  have hf := (run_inv hrun (Inv.of_initial hs _)).2.2 (retCleanFrom_copying hc (fun _ => rfl) hrun)
  have := hs.1
  exact ⟨hf, by omega⟩

/-- So `decode_immune` below is not an equation `none = none`. -/
theorem return_observable {prog : Prog} {s s' : State} {r : Ref}
    (hc : prog.copying = true) (hs : s.Initial) (hrun : run prog s = some (r, s')) :
    ∃ bs, observe s'.mem r = some bs :=
  -- holds of every program: `hc` is not used
  Option.isSome_iff_exists.mp (run_inv hrun (Inv.of_initial hs (fun _ => false))).2.1

/-- **C16, decode side (2).**  Whatever is later done to the buffer's backing array (overwrite,
    Reset and reuse, spare capacity included: any `f`), the returned value does not change. -/
theorem decode_immune {prog : Prog} {s s' : State} {r : Ref}
    (hc : prog.copying = true) (hs : s.Initial) (hrun : run prog s = some (r, s'))
    (f : List UInt8 → List UInt8) :
    observe (scribble s'.mem s.bufRegion f) r = observe s'.mem r :=
  observe_scribble_ne _ _ _ _ (noalias_return hc hs hrun).2

theorem decode_immune' {prog : Prog} {s s' : State} {r : Ref}
    (hc : prog.copying = true) (hs : s.Initial) (hrun : run prog s = some (r, s'))
    (f : List UInt8 → List UInt8) :
    observe (scribble s'.mem s'.bufRegion f) r = observe s'.mem r := by
  rw [(run_inv hrun (Inv.of_initial hs (fun _ => false))).1]; exact decode_immune hc hs hrun f

theorem view_returns_buffer {n : Nat} {s s' : State} {r : Ref}
    (h : run (progViewString n) s = some (r, s')) :
    r = ⟨s.bufRegion, s.off, n⟩ ∧ s'.mem = s.mem := by
  obtain ⟨s1, hst, h⟩ := Option.bind_eq_some_iff.mp h
  obtain ⟨buf, _, _, rfl⟩ := step_view hst
  cases h
  exact ⟨rfl, rfl⟩

/-- **C16 fails for the zero-copy variant**: on ANY buffer with `n > 0` unread bytes `[view 0 n, ret 0]` succeeds and
    some later mutation of the buffer changes what the returned value shows. -/
theorem view_aliases (s : State) (n : Nat) (hn : 0 < n) (buf : List UInt8)
    (hb : s.mem.regions[s.bufRegion]? = some buf)
    (h1 : s.off + n ≤ s.valid) (h2 : s.valid ≤ buf.length) :
    ∃ r s' f, run [.view 0 n, .ret 0] s = some (r, s') ∧
      observe (scribble s'.mem s.bufRegion f) r ≠ observe s'.mem r := by
  refine ⟨⟨s.bufRegion, s.off, n⟩, { s with off := s.off + n }.setVar 0 ⟨s.bufRegion, s.off, n⟩,
    fun _ => [], ?_, ?_⟩
  · simp [run, step, hb, h1, h2, State.setVar]
  · have hlt : s.off + n ≤ buf.length := by omega
    have hne : ¬ (s.off + n ≤ 0) := by omega
    simp [observe, scribble, State.setVar, hb, hlt, hne]

example : ∃ r s' f, run [.view 0 3, .ret 0] (State.ofBuffer [97, 98, 99, 100, 101]) = some (r, s') ∧
    observe (scribble s'.mem 0 f) r ≠ observe s'.mem r :=
  view_aliases (State.ofBuffer [97, 98, 99, 100, 101]) 3 (by decide) [97, 98, 99, 100, 101] rfl
    (by decide) (by decide)

/-- The caller got "abc"; the buffer is reused; the caller's value now reads "XYZ". -/
theorem view_aliases_concrete :
    (run [.view 0 3, .ret 0] (State.ofBuffer [97, 98, 99, 100, 101])).map
        (fun p => (p.1, observe p.2.mem p.1,
          observe (scribble p.2.mem 0 (fun _ => [88, 89, 90, 0, 0])) p.1))
      = some (⟨0, 0, 3⟩, some [97, 98, 99], some [88, 89, 90]) := by
  decide

theorem progReadString_copying (len : Nat) : (progReadString len).copying = true := rfl

theorem progReadFixedStringTrimPadding_copying (n a b : Nat) :
    (progReadFixedStringTrimPadding n a b).copying = true := rfl

theorem progReadBasicType_copying (w : Nat) : (progReadBasicType w).copying = true := rfl

example : (progReadString 5).copying = true := by decide
example : (progReadFixedStringTrimPadding 8 0 6).copying = true := by decide
example : (progReadBasicType 4).copying = true := by decide

theorem progViewString_not_copying (n : Nat) : (progViewString n).copying = false := rfl

theorem ofBuffer_initial (buf : List UInt8) (others : List (List UInt8)) :
    (State.ofBuffer buf others).Initial :=
  ⟨by simp [State.ofBuffer], fun _ => rfl⟩

/-- The 5-byte buffer "hello". -/
def exHello : State := State.ofBuffer [104, 101, 108, 108, 111]

/-- Region 0 is the buffer, region 1 the `make`d scratch slice, region 2 the returned string. -/
theorem readString_hello_runs :
    (run (progReadString 5) exHello).map (fun p => (p.1, observe p.2.mem p.1))
      = some (⟨2, 0, 5⟩, some [104, 101, 108, 108, 111]) := by
  decide

example : ∃ r s', run (progReadString 5) exHello = some (r, s') := by
  cases h : run (progReadString 5) exHello with
  | none => have := readString_hello_runs; simp [h] at this
  | some p => exact ⟨p.1, p.2, rfl⟩

example {r : Ref} {s' : State} (h : run (progReadString 5) exHello = some (r, s')) :
    exHello.mem.regions.length ≤ r.region ∧ r.region ≠ exHello.bufRegion :=
  noalias_return (progReadString_copying 5) (ofBuffer_initial _ _) h

theorem readString_hello_immune (f : List UInt8 → List UInt8) :
    (run (progReadString 5) exHello).map
        (fun p => observe (scribble p.2.mem exHello.bufRegion f) p.1)
      = some (some [104, 101, 108, 108, 111]) := by
  have hr := readString_hello_runs
  cases h : run (progReadString 5) exHello with
  | none => simp [h] at hr
  | some p =>
      simp only [h, Option.map_some, Option.some.injEq, Prod.mk.injEq] at hr ⊢
      rw [decode_immune (progReadString_copying 5) (show exHello.Initial from ofBuffer_initial _ _) h f, hr.2]

example : (run (progReadFixedStringTrimPadding 5 0 2) (State.ofBuffer [104, 105, 32, 32, 32])).map
      (fun p => (p.1, observe p.2.mem p.1)) = some (⟨2, 0, 2⟩, some [104, 105]) := by
  decide

example : (run (progReadBasicType 4) (State.ofBuffer [1, 2, 3, 4, 5])).map
      (fun p => (p.1, observe p.2.mem p.1, p.2.off)) = some (⟨1, 0, 4⟩, some [1, 2, 3, 4], 4) := by
  decide

/-- The bytes a `write` instruction copies, as seen in memory `m` through environment `env`. -/
def srcData (m : Mem) (env : Nat → Option Ref) : Instr → List UInt8
  | .write src => ((env src).bind (observe m)).getD []
  | _ => []

theorem take_splice (buf : List UInt8) (v : Nat) (data : List UInt8) (h : v ≤ buf.length) :
    (splice buf v data).take (v + data.length) = buf.take v ++ data := by
  have h1 : (buf.take v ++ data).length = v + data.length := by
    simp [Nat.min_eq_left h]
  unfold splice
  rw [← h1, List.take_left]

theorem srcData_set_ne (m : Mem) (env : Nat → Option Ref) (i : Nat) (new : List UInt8)
    (henv : ∀ k r, env k = some r → r.region ≠ i) (j : Instr) :
    srcData ⟨m.regions.set i new⟩ env j = srcData m env j := by
  cases j <;> simp only [srcData]
  rename_i k
  cases hk : env k with
  | none => rfl
  | some rk => simp [observe_set_ne _ _ _ _ (henv k rk hk)]

theorem step_write_bufBytes {src : Nat} {s s' : State} (h : step (.write src) s = some s') :
    State.bufBytes s'.mem s' = State.bufBytes s.mem s ++ srcData s.mem s.env (.write src) := by
  obtain ⟨r, buf, data, hr, hbuf, hdata, hc, rfl⟩ := step_write h
  have hlt : s.bufRegion < s.mem.regions.length := (List.getElem?_eq_some_iff.mp hbuf).1
  simp [State.bufBytes, List.getElem?_set_self hlt, hbuf, take_splice _ _ _ hc, srcData, hr, hdata]

/-- What a sequence of `write`s does: buffer region and locals stay, and when no source points into the buffer itself the
    buffer afterwards holds its old valid bytes followed by the bytes each source showed AT THE TIME OF THE CALL
    (`srcData s.mem s.env`: a copy, values and not references). -/
theorem exec_writes {prog : Prog} {s s' : State} (hw : prog.writesOnly = true) (h : exec prog s = some s') :
    s'.bufRegion = s.bufRegion ∧ s'.env = s.env ∧
    ((∀ k r, s.env k = some r → r.region ≠ s.bufRegion) →
      State.bufBytes s'.mem s' = State.bufBytes s.mem s ++ prog.flatMap (srcData s.mem s.env)) := by
  induction prog generalizing s with
  | nil => cases h; exact ⟨rfl, rfl, fun _ => by simp⟩
  | cons i rest ih =>
      have hw' : i.isWrite = true ∧ Prog.writesOnly rest = true := by
        simpa [Prog.writesOnly] using hw
      cases i with
      | write src =>
          obtain ⟨s1, hst, h⟩ := Option.bind_eq_some_iff.mp h
          have h1 := step_write_bufBytes hst
          obtain ⟨r, buf, data, _, _, _, _, rfl⟩ := step_write hst
          obtain ⟨hb, he, hbytes⟩ := ih hw'.2 h
          refine ⟨hb, he, fun henv => ?_⟩
          -- the later sources are read in the memory after this write: the same bytes, since no local points into the buffer
          rw [hbytes henv, h1, funext (srcData_set_ne s.mem s.env _ _ henv), List.flatMap_cons, List.append_assoc]
      | _ => cases hw'.1

/-- **C16, encode side.**  After a sequence of `write`s, mutating any region other than the
    buffer's (i.e. the message's memory: `g ≠ bufRegion`, any `f`) leaves the buffer's contents
    unchanged. -/
theorem encode_immune {prog : Prog} {s s' : State}
    (hw : prog.writesOnly = true) (hx : exec prog s = some s')
    (g : Nat) (hg : g ≠ s.bufRegion) (f : List UInt8 → List UInt8) :
    State.bufBytes (scribble s'.mem g f) s' = State.bufBytes s'.mem s' := by
  simp [State.bufBytes, scribble_getElem?_ne _ _ _ _ ((exec_writes hw hx).1 ▸ hg)]

/-- Encode side, full strength: after the writes AND any later mutation of the message's memory,
    the buffer still holds exactly the bytes the message had when it was written. -/
theorem encode_immune_contents {prog : Prog} {s s' : State}
    (hw : prog.writesOnly = true) (hx : exec prog s = some s')
    (henv : ∀ k r, s.env k = some r → r.region ≠ s.bufRegion)
    (g : Nat) (hg : g ≠ s.bufRegion) (f : List UInt8 → List UInt8) :
    State.bufBytes (scribble s'.mem g f) s'
      = State.bufBytes s.mem s ++ prog.flatMap (srcData s.mem s.env) := by
  rw [encode_immune hw hx g hg f]
  exact (exec_writes hw hx).2.2 henv

/-- Non-vacuity (encode side): buffer "ab" (region 0), message regions "hello" (1) and "xyz" (2);
    write message[1:4] = "ell" then "xyz"; afterwards wipe region 1: the buffer still reads
    "abellxyz". -/
def exEnc : State :=
  { State.ofBuffer [97, 98] [[104, 101, 108, 108, 111], [120, 121, 122]] with
    env := fun k => if k = 0 then some ⟨1, 1, 3⟩ else if k = 1 then some ⟨2, 0, 3⟩ else none }

example : (exec [.write 0, .write 1] exEnc).map
      (fun s' => State.bufBytes (scribble s'.mem 1 (fun _ => [])) s')
    = some [97, 98, 101, 108, 108, 120, 121, 122] := by
  decide

example : (exec [.write 0, .write 1] exEnc).isSome = true := by decide

example {s' : State} (h : exec [.write 0, .write 1] exEnc = some s') (f : List UInt8 → List UInt8) :
    State.bufBytes (scribble s'.mem 1 f) s' = State.bufBytes s'.mem s' :=
  encode_immune (by decide) h 1 (by decide) f

example : ∀ k r, exEnc.env k = some r → r.region ≠ exEnc.bufRegion := by
  intro k r h
  simp only [exEnc, State.ofBuffer] at h ⊢
  split at h
  · cases h; decide
  · split at h
    · cases h; decide
    · cases h

end FinProto.Alias
