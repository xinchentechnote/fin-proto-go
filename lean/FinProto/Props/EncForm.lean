/-
  An encoder step only appends, so it is determined by its run on the empty buffer: `x buf = lift (x []) buf`
  (`Appends`).  The frame encoder is the one place that reads the buffer back (`Len()`, the length patch, the
  checksum span); `encFrame … = lift (frameW …)` says that this reading back sees only the frame's own bytes.
  Every encoder property starts from the same case analyses, which are here too: `encPtr_cases`, `encOp_cases`,
  `encTy_succ_cases` (a motive over the step) and the inversions of a successful `encTy` (`encTy_plain_eq_ok`,
  `encTy_frame_eq_ok`, `encTy_succ_inv`).
-/
import FinProto.Props.Leaf
namespace FinProto

def lift (o : Outcome (α × Bytes)) : E α := fun buf => o.map fun p => (p.1, buf ++ p.2)

theorem lift_eq_ok {o : Outcome (α × Bytes)} {pre out : Bytes} {a : α} :
    lift o pre = .ok (a, out) ↔ ∃ bs, o = .ok (a, bs) ∧ out = pre ++ bs := by
  unfold lift
  rw [Outcome.map_eq_ok]
  constructor
  · rintro ⟨p, rfl, h⟩
    cases h
    exact ⟨p.2, rfl, rfl⟩
  · rintro ⟨bs, rfl, rfl⟩
    exact ⟨_, rfl, rfl⟩

theorem lift_lift (o : Outcome (α × Bytes)) (bs buf : Bytes) : lift (lift o bs) buf = lift o (buf ++ bs) := by
  cases o <;> simp [lift, List.append_assoc]

theorem lift_bind {w : Outcome (α × Bytes)} {buf' buf : Bytes} {K k : α × Bytes → Outcome (β × Bytes)}
    (h : ∀ p : α × Bytes, K (p.1, buf' ++ p.2) = lift (k p) buf) : (lift w buf').bind K = lift (w.bind k) buf := by
  cases w with
  | ok p => exact h p
  | err => rfl
  | panic => rfl

def Appends (x : E α) : Prop := ∀ buf, x buf = lift (x []) buf

theorem Appends.of_lift {x : E α} {o : Outcome (α × Bytes)} (h : ∀ buf, x buf = lift o buf) : Appends x := by
  intro buf
  rw [h buf, h [], lift_lift, List.append_nil]

theorem Appends.eq_ok {x : E α} (hx : Appends x) {pre out : Bytes} {a : α} :
    x pre = .ok (a, out) ↔ ∃ bs, x [] = .ok (a, bs) ∧ out = pre ++ bs := by
  rw [hx pre, lift_eq_ok]

theorem appends_pure (a : α) : Appends (fun buf => .ok (a, buf) : E α) :=
  .of_lift (o := .ok (a, [])) fun buf => by simp [lift]

theorem appends_errE : Appends (errE : E α) := .of_lift (o := .err) fun _ => rfl

theorem appends_panicE : Appends (panicE : E α) := .of_lift (o := .panic) fun _ => rfl

theorem appends_emit (v : α) (o : Outcome Bytes) : Appends (emit v o) :=
  .of_lift (o := o.map fun bs => (v, bs)) fun _ => by cases o <;> rfl

theorem appends_bindE {x : E α} {f : α → E β} (hx : Appends x) (hf : ∀ a, Appends (f a)) :
    Appends (bindE x f) := by
  intro buf
  show (x buf).bind _ = lift ((x []).bind _) buf
  rw [hx buf]
  exact lift_bind fun p => by rw [hf p.1 (buf ++ p.2), hf p.1 p.2, lift_lift]

theorem appends_mapE {x : E α} (f : α → β) (hx : Appends x) : Appends (mapE f x) := by
  intro buf
  simp only [mapE, hx buf]
  cases x [] <;> rfl

theorem appends_encSeq {step : Op → Val → E Val} (hs : ∀ op v, Appends (step op v)) :
    ∀ ops vs, Appends (encSeq step ops vs)
  | [], [] => appends_pure _
  | [], _ :: _ => appends_errE
  | _ :: _, [] => appends_errE
  | op :: ops, v :: vs => appends_bindE (hs op v) fun _ => appends_mapE _ (appends_encSeq hs ops vs)

theorem appends_encAll {f : Val → E Val} (hf : ∀ v, Appends (f v)) : ∀ vs, Appends (encAll f vs)
  | [] => appends_pure _
  | v :: vs => appends_bindE (hf v) fun _ => appends_mapE _ (appends_encAll hf vs)

theorem encPtr_cases {motive : E Val → Prop} (enc : Nat → Val → E Val) (g : Guard) (mk : Option Val)
    (ty? : Option Nat) (v : Val) (panic : g = .none → v = .nil → motive panicE) (err : motive errE)
    (skip : g = .skip → v = .nil → motive (fun buf => .ok (.nil, buf)))
    (mat : ∀ z ty, g = .mat → v = .nil → mk = some z → ty? = some ty → motive (enc ty z))
    (msg : ∀ ty fs, v = .msg ty fs → motive (enc ty v)) : motive (encPtr enc g mk ty? v) := by
  fun_cases encPtr enc g mk ty? v
  · exact panic rfl rfl
  · exact err
  · exact skip rfl rfl
  · exact mat _ _ rfl rfl rfl rfl
  · exact err
  · exact msg _ _ rfl
  · exact err

theorem appends_encPtr {enc : Nat → Val → E Val} (henc : ∀ ty v, Appends (enc ty v))
    (g : Guard) (mk : Option Val) (ty? : Option Nat) (v : Val) : Appends (encPtr enc g mk ty? v) :=
  encPtr_cases enc g mk ty? v (fun _ _ => appends_panicE) appends_errE (fun _ _ => appends_pure _)
    (fun _ _ _ _ _ _ => henc _ _) (fun _ _ _ => henc _ _)

theorem encOp_cases {motive : E Val → Prop} (env : Env) (enc : Nat → Val → E Val) (zero : Nat → Val)
    (all : List Val) (op : Op) (v : Val)
    (leaf : ∀ o, op.isLeaf = true → op.write v = some o → motive (emit v o)) (err : motive errE)
    (msg : ∀ ty g fs, op = .nested ty g → v = .msg ty fs → motive (enc ty v))
    (nil : ∀ ty g, op = .nested ty g → v = .nil → motive (encPtr enc g (some (zero ty)) (some ty) .nil))
    (objs : ∀ cw ty e l, op = .objs cw ty e → v = .msgs l →
      motive (bindE (emit () (writeLen cw e l.length)) fun _ => mapE Val.msgs (encAll (enc ty) l)))
    (union : ∀ key tbl g, op = .union key tbl g →
      motive (encPtr enc g ((unionTy env key tbl all).map zero) (unionTy env key tbl all) v)) :
    motive (encOp env enc zero all op v) := by
  fun_cases encOp env enc zero all op v
  · exact leaf _ rfl rfl
  · exact leaf _ rfl rfl
  · exact leaf _ rfl rfl
  · exact leaf _ rfl rfl
  · exact leaf _ rfl rfl
  · exact leaf _ rfl rfl
  · exact msg _ _ _ rfl rfl
  · exact err
  · exact nil _ _ rfl rfl
  · exact err
  · exact objs _ _ _ _ rfl rfl
  · exact union _ _ _ rfl
  · exact err

theorem encOp_union (env : Env) (enc : Nat → Val → E Val) (zero : Nat → Val) (all : List Val)
    (key tbl : Nat) (g : Guard) (v : Val) :
    encOp env enc zero all (.union key tbl g) v =
      encPtr enc g ((unionTy env key tbl all).map zero) (unionTy env key tbl all) v := by
  cases v <;> rfl

theorem appends_encOp (env : Env) {enc : Nat → Val → E Val} (henc : ∀ ty v, Appends (enc ty v))
    (zero : Nat → Val) (all : List Val) (op : Op) (v : Val) : Appends (encOp env enc zero all op v) :=
  encOp_cases env enc zero all op v (fun _ _ _ => appends_emit _ _) appends_errE (fun _ _ _ _ _ => henc _ _)
    (fun _ _ _ _ => appends_encPtr henc _ _ _ _)
    (fun _ _ _ _ _ _ => appends_bindE (appends_emit _ _) fun _ => appends_mapE _ (appends_encAll (henc _) _))
    (fun _ _ _ _ => appends_encPtr henc _ _ _ _)

theorem patch_mid {a z c bs : Bytes} (h : z.length = bs.length) :
    patch (a ++ z ++ c) a.length bs = a ++ bs ++ c := by
  have h1 : (a ++ z ++ c).take a.length = a := by
    rw [List.append_assoc]
    exact List.take_left
  have h2 : (a ++ z ++ c).drop (a.length + bs.length) = c := by
    have : a.length + bs.length = (a ++ z).length := by simp [h]
    rw [this]
    exact List.drop_left
  simp only [patch, h1, h2]

/-- `uint32(bodyEnd - bodyStart)`, the value patched into the length field -/
def frameLen (bodyBytes : Bytes) : Nat := bodyBytes.length % 2 ^ 32

/-- the frame's own bytes, first header byte through last body byte, with the corrected length: what
    `buf.Bytes()[frameStart:]` holds when the checksum is computed -/
def frameBytes (fd : FrameDesc) (hdrBytes bodyBytes : Bytes) : Bytes :=
  hdrBytes ++ toE fd.e fd.lenW (frameLen bodyBytes) ++ bodyBytes

theorem cksNat_lt (alg : Alg) (bs : Bytes) : cksNat alg bs < 256 ^ 4 := by
  cases alg with
  | crc16 => exact Nat.lt_trans (crc16Go bs).toNat_lt (by decide)
  | unknown => exact Nat.pow_pos (by decide)
  | _ => exact UInt32.toNat_lt _

theorem frameLen_lt (bb : Bytes) : frameLen bb < 256 ^ 4 := Nat.mod_lt _ (by decide)

/-- the checksum field and the trailer bytes of a frame whose own bytes are `fr`; nothing without a checksum -/
def FrameDesc.trailer (fd : FrameDesc) (fr : Bytes) : List Val × Bytes :=
  match fd.cks with
  | none => ([], [])
  | some (alg, w) => ([.num (cksNat alg fr)], toE fd.e w (cksNat alg fr))

/-- what a frame's encoder returns and appends, from the buffer-free runs of its header and body -/
def frameW (env : Env) (enc : Nat → Val → E Val) (zero : Nat → Val) (fd : FrameDesc) (ty : Nat)
    (fields : List Val) : Outcome (Val × Bytes) :=
  (encSeq (encOp env enc zero fields) fd.hdr (fields.take fd.hdr.length) []).bind fun (hv, hb) =>
  match fields[fd.hdr.length + 1]? with
  | none => .err
  | some body =>
  (encPtr enc fd.g ((unionTy env fd.key fd.tbl fields).map zero) (unionTy env fd.key fd.tbl fields) body []).bind
    fun (body', bb) =>
  if fields.length = fd.hdr.length + 2 + (fd.trailer (frameBytes fd hb bb)).1.length then
    .ok (.msg ty (hv ++ .num (frameLen bb) :: body' :: (fd.trailer (frameBytes fd hb bb)).1),
         frameBytes fd hb bb ++ (fd.trailer (frameBytes fd hb bb)).2)
  else .err

theorem encFrame_eq_lift {env : Env} {enc : Nat → Val → E Val} (henc : ∀ ty v, Appends (enc ty v))
    (zero : Nat → Val) (fd : FrameDesc) (ty : Nat) (fields : List Val) (buf : Bytes) :
    encFrame env enc zero fd ty fields buf = lift (frameW env enc zero fd ty fields) buf := by
  simp only [encFrame, frameW]
  rw [appends_encSeq (appends_encOp env henc zero fields) fd.hdr _ buf]
  refine lift_bind fun ⟨hv, hb⟩ => ?_
  cases fields[fd.hdr.length + 1]? with
  | none => rfl
  | some body =>
    simp only
    rw [appends_encPtr henc fd.g _ _ body (buf ++ hb ++ toE fd.e fd.lenW 0)]
    refine lift_bind fun ⟨body', bb⟩ => ?_
    -- bodyEnd - bodyStart, the patch at bodyPos and the span from frameStart, on `buf ++ hdr ++ placeholder ++ body`
    have hlen : (buf ++ hb ++ toE fd.e fd.lenW 0 ++ bb).length - (buf ++ hb ++ toE fd.e fd.lenW 0).length
        = bb.length := by
      simp only [List.length_append]
      omega
    have hpatch : patch (buf ++ hb ++ toE fd.e fd.lenW 0 ++ bb) (buf ++ hb).length
        (toE fd.e fd.lenW (bb.length % 2 ^ 32)) = buf ++ frameBytes fd hb bb := by
      rw [patch_mid (by simp)]
      simp only [frameBytes, frameLen, List.append_assoc]
    rcases hc : fd.cks with _ | ⟨alg, w⟩ <;>
      simp only [lift, hlen, hpatch, List.drop_left, FrameDesc.trailer, hc, frameLen, List.length_cons,
        List.length_nil, List.append_nil] <;>
      split <;>
      simp only [Outcome.map_ok, Outcome.map_err, List.append_assoc]

theorem appends_encFrame (env : Env) {enc : Nat → Val → E Val} (henc : ∀ ty v, Appends (enc ty v))
    (zero : Nat → Val) (fd : FrameDesc) (ty : Nat) (fields : List Val) :
    Appends (encFrame env enc zero fd ty fields) :=
  .of_lift (encFrame_eq_lift henc zero fd ty fields)

theorem encSeq_length {step : Op → Val → E Val} :
    ∀ {ops : List Op} {vs vs' : List Val} {pre out : Bytes},
      encSeq step ops vs pre = .ok (vs', out) → vs.length = ops.length ∧ vs'.length = ops.length
  | [], [] => fun h => by
    cases h
    exact ⟨rfl, rfl⟩
  | [], _ :: _ => fun h => by cases h
  | _ :: _, [] => fun h => by cases h
  | _ :: _, _ :: _ => fun h => by
    obtain ⟨v1, mid, _, hm⟩ := bindE_eq_ok.mp h
    obtain ⟨vs1, h2, rfl⟩ := mapE_eq_ok.mp hm
    exact ⟨congrArg (· + 1) (encSeq_length h2).1, congrArg (· + 1) (encSeq_length h2).2⟩

theorem same_encAll {enc : Val → E Val} (l : List Val) {l' : List Val} {pre out : Bytes}
    (hs : ∀ v ∈ l, ∀ pre v' out, enc v pre = .ok (v', out) → v' = v) (h : encAll enc l pre = .ok (l', out)) :
    l' = l := by
  induction l generalizing l' pre with
  | nil =>
    cases h
    rfl
  | cons v vs ih =>
    simp only [encAll, bindE_eq_ok, mapE_eq_ok] at h
    obtain ⟨v1, mid, h1, vs1, h2, rfl⟩ := h
    rw [hs v (List.mem_cons_self ..) _ _ _ h1, ih (fun x hx => hs x (List.mem_cons_of_mem _ hx)) h2]

theorem same_encSeq {step : Op → Val → E Val} {canon : Op → Val → Bool} :
    ∀ (ops : List Op) (vs : List Val) {vs' : List Val} {pre out : Bytes},
      (∀ op ∈ ops, ∀ v pre v' out, canon op v = true → step op v pre = .ok (v', out) → v' = v) →
      canonSeq canon ops vs = true → encSeq step ops vs pre = .ok (vs', out) → vs' = vs
  | [], [] => fun _ _ h => by
    cases h
    rfl
  | [], _ :: _ => fun _ hc _ => by cases hc
  | _ :: _, [] => fun _ hc _ => by cases hc
  | op :: ops, v :: vs => fun hs hc h => by
    simp only [canonSeq, Bool.and_eq_true] at hc
    simp only [encSeq, bindE_eq_ok, mapE_eq_ok] at h
    obtain ⟨v1, mid, h1, vs1, h2, rfl⟩ := h
    rw [hs op (List.mem_cons_self ..) _ _ _ _ hc.1 h1,
      same_encSeq ops vs (fun o ho => hs o (List.mem_cons_of_mem _ ho)) hc.2 h2]

/-- the field list a frame's encoder returns: the header fields, then length, body, checksum -/
theorem take_frameFields {hv : List Val} {n : Nat} (hl : hv.length = n) (x y : Val) (vt : List Val) :
    (hv ++ x :: y :: vt).take n = hv ∧ (hv ++ x :: y :: vt)[n + 1]? = some y ∧
      (hv ++ x :: y :: vt).length = n + 2 + vt.length := by
  subst hl
  refine ⟨List.take_left, ?_, ?_⟩
  · rw [List.getElem?_append_right (by omega)]
    simp
  · simp only [List.length_append, List.length_cons]
    omega

def FrameDesc.cksOps (fd : FrameDesc) : List Op :=
  match fd.cks with
  | some (_, w) => [.scalar w fd.e]
  | none => []

theorem FrameDesc.decOps_eq (fd : FrameDesc) :
    fd.decOps = fd.hdr ++ ([.scalar fd.lenW fd.e, .union fd.key fd.tbl .mat] ++ fd.cksOps) := by
  rcases hc : fd.cks with _ | ⟨a, w⟩ <;> simp only [FrameDesc.decOps, FrameDesc.cksOps, hc, List.append_assoc]

theorem decSeq_cksOps_trailer {env : Env} {dT : Nat → R Val} {fd : FrameDesc}
    (hcw : ∀ a w, fd.cks = some (a, w) → w = 4) (fr : Bytes) (acc : List Val) :
    Reads (decSeq (decOp env dT) fd.cksOps acc) (fd.trailer fr).2 (acc ++ (fd.trailer fr).1) := by
  rcases hc : fd.cks with _ | ⟨alg, w⟩ <;> simp only [FrameDesc.cksOps, FrameDesc.trailer, hc]
  · rw [List.append_nil]
    exact Reads.pure acc
  · cases hcw alg w hc
    rw [← List.append_nil (toE _ _ _)]
    exact ((readScalar_writeScalar (cksNat_lt _ _)).map rfl).bind (Reads.pure _)

theorem encTy_succ_cases {motive : E Val → Prop} (env : Env) (f ty : Nat) (v : Val)
    (err : motive errE) (panic : v = .nil → motive panicE)
    (plain : ∀ fields td, v = .msg ty fields → env.types[ty]? = some td → td.frame = none →
      motive (mapE (Val.msg ty) (encSeq (encOp env (encTy env f) (zeroTy env f) fields) td.enc fields)))
    (frame : ∀ fields td fd, v = .msg ty fields → env.types[ty]? = some td → td.frame = some fd →
      motive (encFrame env (encTy env f) (zeroTy env f) fd ty fields)) :
    motive (encTy env (f + 1) ty v) := by
  -- `fun_cases` wants the fuel as a variable
  generalize hn : f + 1 = n
  fun_cases encTy env n ty v <;> cases hn
  · exact err
  · exact plain _ _ rfl ‹_› ‹_›
  · exact frame _ _ _ rfl ‹_› ‹_›
  · exact err
  · exact panic rfl
  · exact err

theorem appends_encTy (env : Env) : ∀ f ty v, Appends (encTy env f ty v)
  | 0, _, _ => appends_errE
  | f+1, ty, v =>
    encTy_succ_cases env f ty v appends_errE (fun _ => appends_panicE)
      (fun _ _ _ _ _ => appends_mapE _ (appends_encSeq (appends_encOp env (appends_encTy env f) _ _) _ _))
      (fun _ _ _ _ _ _ => appends_encFrame env (appends_encTy env f) _ _ _ _)

theorem encTy_plain_eq_ok {env : Env} {f ty : Nat} {td : TyDef} {fields : List Val} {pre out : Bytes} {v' : Val}
    (htd : env.types[ty]? = some td) (hfr : td.frame = none) :
    encTy env (f + 1) ty (.msg ty fields) pre = .ok (v', out) ↔
      ∃ fs, encSeq (encOp env (encTy env f) (zeroTy env f) fields) td.enc fields pre = .ok (fs, out) ∧
        v' = .msg ty fs := by
  simp only [encTy, if_true, htd, hfr, mapE_eq_ok, @eq_comm _ v']

theorem encTy_frame {env : Env} {f ty : Nat} {td : TyDef} {fd : FrameDesc} (fields : List Val)
    (htd : env.types[ty]? = some td) (hfr : td.frame = some fd) :
    encTy env (f + 1) ty (.msg ty fields) = encFrame env (encTy env f) (zeroTy env f) fd ty fields := by
  simp only [encTy, htd, hfr, if_true]

theorem encTy_frame_eq_ok {env : Env} {f ty : Nat} {td : TyDef} {fd : FrameDesc} {fields : List Val}
    {pre out : Bytes} {v' : Val} (htd : env.types[ty]? = some td) (hfr : td.frame = some fd) :
    encTy env (f + 1) ty (.msg ty fields) pre = .ok (v', out) ↔
      ∃ hv hb body body' bb,
        encSeq (encOp env (encTy env f) (zeroTy env f) fields) fd.hdr (fields.take fd.hdr.length) [] = .ok (hv, hb) ∧
        fields[fd.hdr.length + 1]? = some body ∧
        encPtr (encTy env f) fd.g ((unionTy env fd.key fd.tbl fields).map (zeroTy env f))
          (unionTy env fd.key fd.tbl fields) body [] = .ok (body', bb) ∧
        fields.length = fd.hdr.length + 2 + (fd.trailer (frameBytes fd hb bb)).1.length ∧
        v' = .msg ty (hv ++ .num (frameLen bb) :: body' :: (fd.trailer (frameBytes fd hb bb)).1) ∧
        out = pre ++ (frameBytes fd hb bb ++ (fd.trailer (frameBytes fd hb bb)).2) := by
  rw [encTy_frame fields htd hfr, encFrame_eq_lift (appends_encTy env f), lift_eq_ok]
  unfold frameW
  constructor
  · rintro ⟨bs, h, rfl⟩
    obtain ⟨⟨hv, hb⟩, h1, h⟩ := Outcome.bind_eq_ok.mp h
    simp only at h
    split at h
    · cases h
    · rename_i body h2
      obtain ⟨⟨body', bb⟩, h3, h⟩ := Outcome.bind_eq_ok.mp h
      simp only at h
      split at h
      · rename_i hl
        cases h
        exact ⟨hv, hb, body, body', bb, h1, h2, h3, hl, rfl, rfl⟩
      · cases h
  · rintro ⟨hv, hb, body, body', bb, h1, h2, h3, hl, rfl, rfl⟩
    exact ⟨_, by simp only [h1, h2, h3, Outcome.bind_ok, if_pos hl], rfl⟩

theorem encTy_succ_inv {env : Env} {f ty : Nat} {v v' : Val} {pre out : Bytes}
    (h : encTy env (f + 1) ty v pre = .ok (v', out)) :
    ∃ fields td, v = .msg ty fields ∧ env.types[ty]? = some td :=
  encTy_succ_cases (motive := fun x => x pre = .ok (v', out) → _) env f ty v
    (fun h => by cases h) (fun _ h => by cases h)
    (fun fields td hv htd _ _ => ⟨fields, td, hv, htd⟩)
    (fun fields td _ hv htd _ _ => ⟨fields, td, hv, htd⟩) h

theorem encTy_ok_msg {env : Env} {f ty : Nat} {v v' : Val} {pre out : Bytes}
    (h : encTy env f ty v pre = .ok (v', out)) : ∃ fs, v' = .msg ty fs := by
  cases f with
  | zero => cases h
  | succ f =>
    obtain ⟨fields, td, rfl, htd⟩ := encTy_succ_inv h
    cases hfr : td.frame with
    | none =>
      obtain ⟨fs, _, rfl⟩ := (encTy_plain_eq_ok htd hfr).mp h
      exact ⟨fs, rfl⟩
    | some fd =>
      obtain ⟨_, _, _, _, _, _, _, _, _, rfl, _⟩ := (encTy_frame_eq_ok htd hfr).mp h
      exact ⟨_, rfl⟩

end FinProto
