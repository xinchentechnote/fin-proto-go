/-
  The GoIR tie, assembled: for every statement kind of the schema language that names a codec primitive, the Go function
  it names — as translated statement by statement from codec/binary_codec.go (`PinnedIR`, and, when `Obl.ir_repo` holds,
  the current sources) and run by GoIR's semantics — does exactly what the schema interpreter's leaf (`encOp` / `decOp`,
  the functions every property theorem is about) says.  The primitive model of `Prim.lean` is thus proved against a
  syntax-directed translation of the source, besides being compared with the library by the differential run.
-/
import FinProto.Props.GoIR_A
import FinProto.Props.GoIR_B
import FinProto.Props.GoIR_C
import FinProto.Props.GoIR_E
namespace FinProto.GoIR
open FinProto

/-- the domain the theorems speak about: prefix types are Go's unsigned integer types (at most 8 bytes) and lengths are
    Go `int`s (below 2^63) -/
def opOK : Op → Val → Prop
  | .vstr pw _, .str s => pw ≤ 8 ∧ s.length < 2 ^ 63
  | .nums cw _ _, .nums l => cw ≤ 8 ∧ l.length < 2 ^ 63
  | .fixeds cw _ _ _ _, .strs l => cw ≤ 8 ∧ l.length < 2 ^ 63
  | .vstrs cw pw _, .strs l => cw ≤ 8 ∧ pw ≤ 8 ∧ l.length < 2 ^ 63 ∧ ∀ s ∈ l, s.length < 2 ^ 63
  | .objs cw _ _, .msgs l => cw ≤ 8 ∧ l.length < 2 ^ 63
  | _, _ => True

theorem wspecE_emit {r : CallRes O} {buf : Bytes} {o : Outcome Bytes} (v : α) (h : WSpec r buf o) :
    WSpecE r (emit v o buf) := by
  cases o with
  | ok bs => exact WSpecE.ok_iff.2 (WSpec.ok_iff.1 h)
  | err => exact WSpecE.err_iff.2 (WSpec.err_iff.1 h)
  | panic => exact WSpecE.panic_iff.2 (WSpec.panic_iff.1 h)

/-- `WSpecE` looks at the buffer a writer leaves, not at the value it returns -/
theorem wspecE_mapE {r : CallRes O} {x : E α} {buf : Bytes} (f : α → β) (h : WSpecE r (x buf)) :
    WSpecE r (mapE f x buf) := by
  revert h
  simp only [mapE]
  cases x buf <;> exact id

/-- ENCODER LEAVES.  The call that an encoder statement of kind `op` makes on a field value `v` (the variant with explicit
    padding arguments), executed on the translated source, appends exactly what `encOp` appends, fails exactly when it
    fails, and panics exactly when it panics. -/
theorem encOp_ir (env : Env) (encTy : Nat → Val → E Val) (zero : Nat → Val) (all : List Val) (ext : Ext Val)
    (op : Op) (v : Val) (c : Nat × List Ty × List (V Val)) (hc : opWriter false op v = some c) (hok : opOK op v)
    (hext : ∀ cw ty e, op = .objs cw ty e → ∀ o b, ext.enc o b = (encTy ty o b).map (·.2))
    (buf : Bytes) (lf k : Nat) (hk : 4 ≤ k) :
    WSpecE (runFn ext prog lf k c.1 c.2.1 c.2.2 buf) (encOp env encTy zero all op v buf) := by
  unfold opWriter at hc
  split at hc
  next w e n =>
    cases hc
    exact wspecE_emit _ (WSpec.ok_iff.2 (ir_writeScalar ext e w n buf lf k (by omega)))
  next n pad left s =>
    cases hc
    exact wspecE_emit _ (WSpec.ok_iff.2 (ir_writeFixed ext s n pad left buf lf k (by omega)))
  next pw e s =>
    cases hc
    exact wspecE_emit _ (ir_writeVstr ext e pw s hok.1 hok.2 buf lf k (by omega))
  next cw w e l =>
    cases hc
    exact wspecE_emit _ (ir_writeNums ext e cw w l hok.1 hok.2 buf lf k (by omega))
  next cw n pad left e l =>
    cases hc
    exact wspecE_emit _ (ir_writeFixeds ext e cw n pad left l hok.1 hok.2 buf lf k (by omega))
  next cw pw e l =>
    cases hc
    exact wspecE_emit _ (ir_writeVstrs ext e cw pw l hok.1 hok.2.1 hok.2.2.1 hok.2.2.2 buf lf k (by omega))
  next cw ty e l =>
    cases hc
    simp only [encOp, ← mapE_bindE]
    exact wspecE_mapE _ (ir_writeObjs ext (encTy ty) (hext cw ty e rfl) e cw (.u 0) l hok.1 hok.2 buf lf k (by omega))
  next => cases hc

/-- the variants without padding arguments (`WriteFixedString`, `WriteFixedStringList[LE]`) are the general ones at pad ' '
    on the right -/
theorem encOp_ir_default (env : Env) (encTy : Nat → Val → E Val) (zero : Nat → Val) (all : List Val) (ext : Ext Val)
    (op : Op) (v : Val) (c : Nat × List Ty × List (V Val)) (hc : opWriter true op v = some c) (hok : opOK op v)
    (hd : (∃ n, op = .fixed n 32 false) ∨ (∃ cw n e, op = .fixeds cw n 32 false e))
    (buf : Bytes) (lf k : Nat) (hk : 4 ≤ k) :
    WSpecE (runFn ext prog lf k c.1 c.2.1 c.2.2 buf) (encOp env encTy zero all op v buf) := by
  rcases hd with ⟨n, rfl⟩ | ⟨cw, n, e, rfl⟩ <;> cases v <;> cases hc
  · exact wspecE_emit _ (WSpec.ok_iff.2 (ir_writeFixedDef ext _ n buf lf k (by omega)))
  · exact wspecE_emit _ (ir_writeFixedsDef ext e cw n _ hok.1 hok.2 buf lf k (by omega))

/-- the checksum a frame stores: the `Calc` body of the service, executed on the translated source, computes `cksNat`
    (whose published definitions are proved in ChecksumProofs.lean) and leaves the buffer as it was -/
theorem cks_ir (ext : Ext O) (a : Alg) (f : Nat)
    (hf : (a = .crc16 ∧ f = ixCrc16) ∨ (a = .crc32 ∧ f = ixCrc32) ∨ (a = .sse ∧ f = ixSse) ∨ (a = .szse ∧ f = ixSzse))
    (bs : Bytes) (lf k : Nat) (hlf : 9 ≤ lf) (hk : 1 ≤ k) :
    runFn ext prog lf k f [] [] bs = .ret [.int (Int.ofNat (cksNat a bs))] bs := by
  rcases hf with ⟨rfl, rfl⟩ | ⟨rfl, rfl⟩ | ⟨rfl, rfl⟩ | ⟨rfl, rfl⟩
  · exact ir_crc16 ext bs lf k hlf hk
  · exact ir_crc32 ext bs lf k hk
  · exact ir_sse ext bs lf k hk
  · exact ir_szse ext bs lf k hk

/-- non-vacuity: the BSE-style little-endian list `[0x0102, 3]` behind a 16-bit count, through the translated
    `WriteBasicTypeListLE`, and back through `ReadBasicTypeListLE` -/
example : wspecB (runFn noExt prog 100 callDepth (ixWNums .le) [.u 2, .u 2] [natsV [0x0102, 3]] [0xAA]) [0xAA]
    (.ok [2, 0, 2, 1, 3, 0]) = true := by decide +kernel
example : opOK (.nums 2 2 .le) (.nums [0x0102, 3]) := by simp [opOK]

/-! ### sensitivity: what the theorems exclude

  The defect repaired in `/repo` commit `aef9d6d` (`WriteBasicTypeListLE` wrote its ELEMENTS through the big-endian helper)
  is, in GoIR, the body of function 6 with the element call going to function 0 instead of 1.  That program does not
  satisfy `ir_writeNums`'s conclusion: on `[0x0102]` it emits `01 00 01 02` where the model (and the property) say
  `01 00 02 01`.  So the theorems distinguish the repaired code from the defective one. -/

def fn6Defect : Func := { name := "WriteBasicTypeListLE", nparams := 1, body :=
 (.seq (.seq (.call 4 [(.param 0)] [(.order .le), (.len (.var 0))] [(some 1)])
 (.ite (.cmp .ne (.var 1) .nilErr)
 (.ret [(.var 1)])
 .skip))
 (.seq (.range 2 (.var 0)
 (.seq (.call 0 [(.param 1)] [(.var 2)] [(some 3)])
 (.ite (.cmp .ne (.var 3) .nilErr)
 (.ret [(.var 3)])
 .skip)))
 (.ret [.nilErr]))) }

example : wspecB (runFn noExt (prog.set 6 fn6Defect) 100 callDepth (ixWNums .le) [.u 2, .u 2] [natsV [0x0102]] [])
    [] (writeNums 2 2 .le [0x0102]) = false := by decide +kernel
example : wspecB (runFn noExt (prog.set 6 fn6Defect) 100 callDepth (ixWNums .le) [.u 2, .u 2] [natsV [0x0102]] [])
    [] (.ok [1, 0, 1, 2]) = true := by decide +kernel
example : writeNums 2 2 .le [0x0102] = .ok [1, 0, 2, 1] := by decide +kernel
/-- … and the regenerated-equals-committed obligation fails for it -/
example : (prog.set 6 fn6Defect == prog) = false := by decide +kernel

end FinProto.GoIR
