/-
  C08: whatever bytes a decoder accepts, re-encoding the decoded message reproduces exactly those bytes and
  returns the message unchanged (`RTd rd wr`, the converse of `RTe`).  A self-measuring frame is apart: its
  encoder overwrites the length and checksum fields, so the bytes come back only if those two were right.
-/
import FinProto.Props.DecLemmas
import FinProto.Props.EncLemmas
namespace FinProto

def RTd {α : Type} (rd : R α) (wr : α → E α) : Prop :=
  ∀ b v r, rd b = .ok (v, r) → ∃ c, b = c ++ r ∧ ∀ pre, wr v pre = .ok (v, pre ++ c)

theorem encAll_decRep {elem : R Val} {enc : Val → E Val} (helem : RTd elem enc) :
    ∀ (k : Nat) (b : Bytes) (l : List Val) (rest : Bytes), decRep elem k b = .ok (l, rest) →
      l.length = k ∧ ∃ c, b = c ++ rest ∧ ∀ pre, encAll enc l pre = .ok (l, pre ++ c)
  | 0 => fun b l rest h => by
    simp only [decRep, pureR_apply, Outcome.ok.injEq, Prod.mk.injEq] at h
    obtain ⟨rfl, rfl⟩ := h
    exact ⟨rfl, [], rfl, fun pre => by simp only [encAll, List.append_nil]⟩
  | k+1 => fun b l rest h => by
    simp only [decRep] at h
    obtain ⟨a, b', h1, h2⟩ := bindR_eq_ok.mp h
    obtain ⟨l', h3, rfl⟩ := mapR_eq_ok.mp h2
    obtain ⟨c1, hb, hc1⟩ := helem b a b' h1
    obtain ⟨hl', c2, hb', hc2⟩ := encAll_decRep helem k b' l' rest h3
    refine ⟨by rw [List.length_cons, hl'], c1 ++ c2, by rw [hb, hb', List.append_assoc], fun pre => ?_⟩
    rw [encAll, ← List.append_assoc]
    exact bindE_eq_ok.mpr ⟨a, _, hc1 pre, mapE_eq_ok.mpr ⟨l', hc2 _, rfl⟩⟩

/-- `all`, the field list the encoder's union would consult for an ABSENT body, is arbitrary: a decoded body is
    never absent -/
theorem rtd_decOp {env : Env} (hft : env.framesTop = true) {f : Nat}
    (ih : ∀ ty, env.isFrame ty = false → RTd (decTy env f ty) (encTy env f ty))
    {op : Op} (hop : op.noFrame env = true) (zero : Nat → Val) (acc all : List Val) :
    RTd (decOp env (decTy env f) acc op) (encOp env (encTy env f) zero all op) := by
  intro b v r h
  cases op using Op.leafCases with
  | leaf op hl =>
    rw [decOp_leaf _ _ _ hl] at h
    obtain ⟨c, hb, hw⟩ := Op.write_read h
    exact ⟨c, hb, fun pre => (encOp_leaf_eq_ok hl).mpr ⟨c, hw, rfl, rfl⟩⟩
  | nested ty g =>
    simp only [decOp] at h
    simp only [Op.noFrame, Bool.not_eq_true'] at hop
    obtain ⟨fs, rfl, _⟩ := decTy_ok_msg h
    obtain ⟨c, hb, hc⟩ := ih ty hop b _ r h
    refine ⟨c, hb, fun pre => ?_⟩
    simp only [encOp, if_true]
    exact hc pre
  | objs cw ty e =>
    simp only [decOp] at h
    simp only [Op.noFrame, Bool.not_eq_true'] at hop
    obtain ⟨l, hl, rfl⟩ := mapR_eq_ok.mp h
    obtain ⟨count, b', rfl, hcount, h2⟩ := readPrefixed_inv hl
    obtain ⟨hlen, c, rfl, hc⟩ := encAll_decRep (ih ty hop) _ _ _ _ h2
    refine ⟨toE e cw count ++ c, (List.append_assoc _ _ _).symm, fun pre => ?_⟩
    rw [encOp, hlen, ← List.append_assoc]
    exact bindE_eq_ok.mpr ⟨(), _, emit_eq_ok.mpr ⟨_, writeLen_ok hcount, rfl, rfl⟩, mapE_eq_ok.mpr ⟨l, hc _, rfl⟩⟩
  | union key tbl g =>
    obtain ⟨ty', fs, hu, rfl, hd⟩ := dec_union_run h
    obtain ⟨c, hb, hc⟩ := ih ty' (Env.framesTop_unionTy hft hu) b _ r hd
    refine ⟨c, hb, fun pre => ?_⟩
    simp only [encOp, encPtr]
    exact hc pre
  | «opaque» => cases h

theorem dec_enc_seq {step : List Val → Op → R Val} {estep : Op → Val → E Val} :
    ∀ (ops : List Op) (acc : List Val) (b : Bytes) (fs : List Val) (r : Bytes),
      (∀ acc, ∀ op ∈ ops, RTd (step acc op) (estep op)) →
      decSeq step ops acc b = .ok (fs, r) →
      ∃ vs c, fs = acc ++ vs ∧ b = c ++ r ∧ ∀ pre, encSeq estep ops vs pre = .ok (vs, pre ++ c)
  | [] => fun acc b fs r _ h => by
    simp only [decSeq, pureR_apply, Outcome.ok.injEq, Prod.mk.injEq] at h
    obtain ⟨rfl, rfl⟩ := h
    exact ⟨[], [], (List.append_nil _).symm, rfl, fun pre => by simp only [encSeq, List.append_nil]⟩
  | op :: ops => fun acc b fs r hstep h => by
    simp only [decSeq] at h
    obtain ⟨v, b1, h1, h2⟩ := bindR_eq_ok.mp h
    obtain ⟨c1, hb, hc1⟩ := hstep acc op (List.mem_cons_self ..) b v b1 h1
    obtain ⟨vs, c2, hfs, hb1, hc2⟩ := dec_enc_seq ops (acc ++ [v]) b1 fs r
      (fun acc o ho => hstep acc o (List.mem_cons_of_mem _ ho)) h2
    refine ⟨v :: vs, c1 ++ c2, by rw [hfs, List.append_assoc]; rfl, by rw [hb, hb1, List.append_assoc],
      fun pre => ?_⟩
    rw [encSeq, ← List.append_assoc]
    exact bindE_eq_ok.mpr ⟨v, _, hc1 pre, mapE_eq_ok.mpr ⟨vs, hc2 _, rfl⟩⟩

theorem rtd_decTy (env : Env) (hm : env.mirrorOK = true) (hft : env.framesTop = true) :
    ∀ f ty, env.isFrame ty = false → RTd (decTy env f ty) (encTy env f ty) := by
  intro f
  induction f with
  | zero =>
    intro ty _ b v r h
    cases h
  | succ f ih =>
    intro ty hnf b v r h
    obtain ⟨td, fs, htd, hfs, rfl⟩ := decTy_succ_eq_ok.mp h
    have hfr := Env.frame_eq_none htd hnf
    have hmir := (Env.mirrorOK_plain hm htd hfr).1
    have hnfs := (Env.framesTop_at hft htd).2
    -- the decoder runs `td.dec`, the encoder `td.enc`: the same up to the nil-handling annotation, which
    -- `decOp` ignores
    rw [← decSeq_eraseG env _ td.dec td.enc [] hmir] at hfs
    obtain ⟨vs, c, hvs, hb, hc⟩ := dec_enc_seq td.enc [] b fs r
      (fun acc op hop => rtd_decOp hft ih (hnfs op hop) (zeroTy env f) acc fs) hfs
    rw [List.nil_append] at hvs
    subst hvs
    exact ⟨c, hb, fun pre => (encTy_plain_eq_ok htd hfr).mpr ⟨fs, hc pre, rfl⟩⟩

/-- C08 for plain types.  `hk` (`keysOK`) is not needed by the proof: a decoded union body is always
    present (`.msg ty' fs`), and the encoder re-encodes a present body with the type it carries, without
    consulting the key. -/
theorem dec_enc (env : Env) (hm : env.mirrorOK = true) (hk : env.keysOK = true) (hft : env.framesTop = true) :
    ∀ f ty b v r, env.isFrame ty = false → decTy env f ty b = .ok (v, r) →
      ∃ c, b = c ++ r ∧ ∀ pre, encTy env f ty v pre = .ok (v, pre ++ c) := by
  have _ := hk
  exact fun f ty b v r hnf h => rtd_decTy env hm hft f ty hnf b v r h

/-- the frame's own bytes with the TRUE body length in the 4-byte length field -/
def fixedFrame (fd : FrameDesc) (hdrBytes bodyBytes : Bytes) : Bytes :=
  hdrBytes ++ toE fd.e 4 (bodyBytes.length % 2 ^ 32) ++ bodyBytes

/-- the trailer the encoder appends: the checksum of the corrected frame, nothing if the frame has none -/
def frameTrailer (fd : FrameDesc) (hdrBytes bodyBytes : Bytes) : Bytes :=
  match fd.cks with
  | none => []
  | some (alg, _) => toE fd.e 4 (cksNat alg (fixedFrame fd hdrBytes bodyBytes))

/-- the checksum field of the message the encoder returns -/
def frameTrailerVals (fd : FrameDesc) (hdrBytes bodyBytes : Bytes) : List Val :=
  match fd.cks with
  | none => []
  | some (alg, _) => [.num (cksNat alg (fixedFrame fd hdrBytes bodyBytes))]

/-- the checksum field of the message the decoder returns, given the trailer bytes it read -/
def cksVals (fd : FrameDesc) (cksBytes : Bytes) : List Val :=
  match fd.cks with
  | none => []
  | some _ => [.num (ofE fd.e cksBytes)]

theorem fixedFrame_eq {fd : FrameDesc} (hw : fd.lenW = 4) (hb bb : Bytes) :
    frameBytes fd hb bb = fixedFrame fd hb bb := by
  simp only [frameBytes, fixedFrame, frameLen, hw]

theorem frameTrailer_eq {fd : FrameDesc} (hw : fd.lenW = 4) (hcw : ∀ a w, fd.cks = some (a, w) → w = 4)
    (hb bb : Bytes) :
    frameTrailerVals fd hb bb = (fd.trailer (frameBytes fd hb bb)).1 ∧
      frameTrailer fd hb bb = (fd.trailer (frameBytes fd hb bb)).2 := by
  rcases hc : fd.cks with _ | ⟨alg, w⟩ <;>
    simp only [frameTrailerVals, frameTrailer, FrameDesc.trailer, hc, fixedFrame_eq hw, and_self]
  cases hcw alg w hc
  exact ⟨trivial, rfl⟩

theorem cksVals_frameTrailer {fd : FrameDesc} {cb : Bytes} (hcl : cb.length = if fd.cks.isSome then 4 else 0)
    (hb bb : Bytes) :
    (cksVals fd cb).length = (frameTrailerVals fd hb bb).length ∧ (frameTrailer fd hb bb).length = cb.length ∧
      (cksVals fd cb = frameTrailerVals fd hb bb ↔ cb = frameTrailer fd hb bb) := by
  rcases hc : fd.cks with _ | ⟨alg, w⟩ <;>
    simp only [hc, Option.isSome_some, Option.isSome_none, Bool.false_eq_true, if_true, if_false] at hcl <;>
    simp only [cksVals, frameTrailerVals, frameTrailer, hc, hcl, toE_length, List.length_cons, true_and]
  · exact ⟨rfl, fun _ => List.eq_nil_of_length_eq_zero hcl, fun _ => trivial⟩
  · rw [List.cons.injEq, Val.num.injEq, and_iff_left rfl]
    exact (eq_toE_iff hcl (cksNat_lt _ _)).symm

theorem decSeq_cksOps {env : Env} {dT : Nat → R Val} {fd : FrameDesc} (hcw : ∀ a w, fd.cks = some (a, w) → w = 4)
    {acc fs : List Val} {b r : Bytes} (h : decSeq (decOp env dT) fd.cksOps acc b = .ok (fs, r)) :
    ∃ cb, b = cb ++ r ∧ cb.length = (if fd.cks.isSome then 4 else 0) ∧ fs = acc ++ cksVals fd cb := by
  rcases hc : fd.cks with _ | ⟨alg, w⟩ <;> simp only [FrameDesc.cksOps, hc] at h <;>
    simp only [cksVals, hc, Option.isSome_some, Option.isSome_none, if_true]
  · cases h
    exact ⟨[], rfl, rfl, (List.append_nil _).symm⟩
  · cases hcw alg w hc
    simp only [decSeq, decOp] at h
    obtain ⟨vC, b4, hC, h⟩ := bindR_eq_ok.mp h
    cases h
    obtain ⟨C, hC', rfl⟩ := mapR_eq_ok.mp hC
    obtain ⟨rfl, hClt⟩ := writeScalar_readScalar hC'
    exact ⟨toE fd.e 4 C, rfl, toE_length .., by rw [ofE_toE_of_lt _ _ _ hClt]⟩

theorem decSeq_decOps_inv {env : Env} {dT : Nat → R Val} {fd : FrameDesc} {b r : Bytes} {fs : List Val}
    (h : decSeq (decOp env dT) fd.decOps [] b = .ok (fs, r)) :
    ∃ hv b1 L b2 body b3, decSeq (decOp env dT) fd.hdr [] b = .ok (hv, b1) ∧
      readScalar fd.lenW fd.e b1 = .ok (L, b2) ∧
      decOp env dT (hv ++ [.num L]) (.union fd.key fd.tbl .mat) b2 = .ok (body, b3) ∧
      decSeq (decOp env dT) fd.cksOps (hv ++ [.num L, body]) b3 = .ok (fs, r) := by
  rw [FrameDesc.decOps_eq, decSeq_append] at h
  obtain ⟨hv, b1, hh, h⟩ := bindR_eq_ok.mp h
  simp only [List.cons_append, List.nil_append, decSeq] at h
  obtain ⟨vL, b2, hL', h⟩ := bindR_eq_ok.mp h
  obtain ⟨L, hL, rfl⟩ := mapR_eq_ok.mp hL'
  obtain ⟨body, b3, hB, h⟩ := bindR_eq_ok.mp h
  rw [List.append_assoc] at h
  exact ⟨hv, b1, L, b2, body, b3, hh, hL, hB, h⟩

/-- C08 for a self-measuring frame.  Every accepted input splits as header ++ 4-byte length ++ body ++
    trailer (++ rest); the header and the body are reproduced exactly (plain theorem); re-encoding yields
    the same frame with the length field replaced by the true body length and the trailer replaced by the
    checksum of the corrected frame; and it yields the SAME bytes and the SAME message when those two
    fields were already correct. -/
theorem dec_enc_frame (env : Env) (hm : env.mirrorOK = true) (hk : env.keysOK = true)
    (hft : env.framesTop = true) {f ty : Nat} {td : TyDef} {fd : FrameDesc}
    (htd : env.types[ty]? = some td) (hfr : td.frame = some fd) {b r : Bytes} {v : Val}
    (h : decTy env (f + 1) ty b = .ok (v, r)) :
    ∃ (hv : List Val) (body : Val) (hdrBytes lenBytes bodyBytes cksBytes : Bytes),
      -- the consumed bytes `c`
      b = (hdrBytes ++ lenBytes ++ bodyBytes ++ cksBytes) ++ r ∧
      lenBytes.length = 4 ∧ cksBytes.length = (if fd.cks.isSome then 4 else 0) ∧
      -- the decoded message
      v = .msg ty (hv ++ [.num (ofE fd.e lenBytes), body] ++ cksVals fd cksBytes) ∧
      hv.length = fd.hdr.length ∧
      -- header and body: decoded / re-encoded exactly as in the plain theorem
      (∀ all pre, encSeq (encOp env (encTy env f) (zeroTy env f) all) fd.hdr hv pre = .ok (hv, pre ++ hdrBytes)) ∧
      (∃ ty', unionTy env fd.key fd.tbl (hv ++ [.num (ofE fd.e lenBytes)]) = some ty' ∧
        env.isFrame ty' = false ∧ (∀ r', decTy env f ty' (bodyBytes ++ r') = .ok (body, r')) ∧
        ∀ pre, encTy env f ty' body pre = .ok (body, pre ++ bodyBytes)) ∧
      -- the re-encoded frame `c'` and the updated message `v'`
      (∀ pre, encTy env (f + 1) ty v pre =
        .ok (.msg ty (hv ++ [.num (bodyBytes.length % 2 ^ 32), body] ++ frameTrailerVals fd hdrBytes bodyBytes),
             pre ++ (hdrBytes ++ toE fd.e 4 (bodyBytes.length % 2 ^ 32) ++ bodyBytes ++
                      frameTrailer fd hdrBytes bodyBytes))) ∧
      -- … which are `c` and `v` when the two computed fields were already correct
      (lenBytes = toE fd.e 4 (bodyBytes.length % 2 ^ 32) → cksBytes = frameTrailer fd hdrBytes bodyBytes →
        ∀ pre, encTy env (f + 1) ty v pre = .ok (v, pre ++ (hdrBytes ++ lenBytes ++ bodyBytes ++ cksBytes))) := by
  obtain ⟨hmir, _, hscal, _, hw, hcw⟩ := Env.mirrorOK_frame hm htd hfr
  have _ := hk
  have ih := rtd_decTy env hm hft f
  obtain ⟨td', fs, htd', hfs, rfl⟩ := decTy_succ_eq_ok.mp h
  cases htd.symm.trans htd'
  rw [decSeq_eraseG env _ fd.decOps td.dec [] hmir] at hfs
  obtain ⟨hv, b1, L, b2, body, b3, hh, hL, hB, hC⟩ := decSeq_decOps_inv hfs
  obtain ⟨rfl, hLlt⟩ := writeScalar_readScalar hL
  rw [hw] at hLlt
  have hofL : ofE fd.e (toE fd.e 4 L) = L := ofE_toE_of_lt _ _ _ hLlt
  obtain ⟨ty', bfs, hu, rfl, hd⟩ := dec_union_run hB
  have hnf := Env.framesTop_unionTy hft hu
  obtain ⟨bb, rfl, hbody⟩ := ih ty' hnf b2 _ b3 hd
  obtain ⟨cb, rfl, hcl, rfl⟩ := decSeq_cksOps hcw hC
  -- the header re-encodes to the bytes read whatever `all` is: they are what the decoder consumed
  obtain ⟨hb, rfl, _⟩ := obl_decSeq (fun acc op => obl_decOp env (obl_decTy env f) acc op) _ _ _ _ _ hh
  have hvlen : hv.length = fd.hdr.length := by simpa using decSeq_length _ _ _ _ _ hh
  have hhdr : ∀ all pre, encSeq (encOp env (encTy env f) (zeroTy env f) all) fd.hdr hv pre = .ok (hv, pre ++ hb) := by
    intro all
    obtain ⟨hv', c, hhv, hc, he⟩ := dec_enc_seq (estep := encOp env (encTy env f) (zeroTy env f) all) fd.hdr [] _ hv _
      (fun acc op hop => rtd_decOp hft ih (Op.noFrame_of_isScalar (hscal op hop)) (zeroTy env f) acc all) hh
    cases List.append_cancel_right hc
    cases (show hv = hv' from hhv)
    exact he
  obtain ⟨hcv, _, hct⟩ := cksVals_frameTrailer hcl hb bb
  -- the encoder on the decoded message, through the closed form of the frame
  have henc : ∀ pre, encTy env (f + 1) ty (.msg ty (hv ++ [.num L, .msg ty' bfs] ++ cksVals fd cb)) pre =
      .ok (.msg ty (hv ++ [.num (bb.length % 2 ^ 32), .msg ty' bfs] ++ frameTrailerVals fd hb bb),
        pre ++ (hb ++ toE fd.e 4 (bb.length % 2 ^ 32) ++ bb ++ frameTrailer fd hb bb)) := by
    intro pre
    obtain ⟨et1, et2⟩ := frameTrailer_eq hw hcw hb bb
    obtain ⟨e1, e2, e3⟩ := take_frameFields hvlen (.num L) (.msg ty' bfs) (cksVals fd cb)
    simp only [et1, et2, List.append_assoc, List.cons_append, List.nil_append]
    refine (encTy_frame_eq_ok htd hfr).mpr ⟨hv, hb, _, _, bb, ?_, e2, ?_, by rw [e3, hcv, et1], rfl, ?_⟩
    · rw [e1, ← List.nil_append hb]
      exact hhdr _ []
    · rw [← List.nil_append bb]
      exact hbody []
    · simp only [frameBytes, frameLen, hw, List.append_assoc]
  refine ⟨hv, .msg ty' bfs, hb, toE fd.e 4 L, bb, cb, ?_, toE_length .., hcl, ?_, hvlen, hhdr,
    ⟨ty', by rw [hofL]; exact hu, hnf, dec_extend hd, hbody⟩, henc, fun hLe hCe pre => ?_⟩
  · simp only [writeScalar, hw, List.append_assoc]
  · rw [hofL]
  · -- correct length and checksum on the wire: the fields the encoder computes are the ones it was given
    have hLv : L = bb.length % 2 ^ 32 := hofL.symm.trans ((eq_toE_iff (toE_length ..) (frameLen_lt bb)).mp hLe)
    have := henc pre
    rwa [← hct.mpr hCe, ← hCe, ← hLv] at this

/-- witness-free corollary: a decoded frame always re-encodes, to a frame of the SAME length; the bytes
    are reproduced exactly if and only if the message comes back unchanged (i.e. iff the length and
    checksum fields on the wire were the correct ones) -/
theorem dec_enc_frame_iff (env : Env) (hm : env.mirrorOK = true) (hk : env.keysOK = true)
    (hft : env.framesTop = true) {f ty : Nat} {td : TyDef} {fd : FrameDesc}
    (htd : env.types[ty]? = some td) (hfr : td.frame = some fd) {b r : Bytes} {v : Val}
    (h : decTy env (f + 1) ty b = .ok (v, r)) :
    ∃ c v' c', b = c ++ r ∧ (∀ pre, encTy env (f + 1) ty v pre = .ok (v', pre ++ c')) ∧
      c'.length = c.length ∧ (c' = c ↔ v' = v) := by
  obtain ⟨hv, body, hb, lb, bb, cb, hbeq, hll, hcl, hveq, _, _, _, henc, _⟩ :=
    dec_enc_frame env hm hk hft htd hfr h
  obtain ⟨_, hcl', hct⟩ := cksVals_frameTrailer hcl hb bb
  refine ⟨_, _, _, hbeq, henc, ?_, ?_, ?_⟩
  · simp only [List.length_append, toE_length, hll, hcl']
  · intro hc
    simp only [List.append_assoc] at hc
    have h2 := List.append_inj (List.append_cancel_left hc) (by rw [toE_length, hll])
    rw [hveq, (eq_toE_iff (n := bb.length % 2 ^ 32) hll (frameLen_lt bb)).mp h2.1.symm,
      hct.mpr (List.append_cancel_left h2.2).symm]
  · intro hvv
    rw [hveq] at hvv
    simp only [Val.msg.injEq, true_and, List.append_assoc, List.cons_append, List.nil_append] at hvv
    have h1 := List.append_cancel_left hvv
    simp only [List.cons.injEq, Val.num.injEq, true_and] at h1
    rw [(eq_toE_iff (n := bb.length % 2 ^ 32) hll (frameLen_lt bb)).mpr h1.1.symm, hct.mp h1.2.symm]

section Examples

private theorem pinned_mirror : Pinned.env.mirrorOK = true := Pinned.mirrorOK
private theorem pinned_keys : Pinned.env.keysOK = true := Pinned.keysOK
private theorem pinned_framesTop : Pinned.env.framesTop = true := Pinned.framesTop

/-- sample.StringPacket (type 79): two length-prefixed texts, four fixed-width texts (left-padded with
    '0', left-padded with ' ', right-padded with NUL), two lists of length-prefixed texts, four lists of
    fixed-width texts.  The input has a field made of pad bytes only, interior and trailing '0's in a
    left-'0'-padded field, interior and trailing blanks in a left-blank-padded field, an all-NUL field. -/
private def exS : Bytes :=
  [2,0,72,105, 0,0, 48, 48,48,49,50,48,48,51,52,48,48, 32,32,32,65,32,66,32,32,32,32,
   0,0,0,0,0,0,0,0,0,0, 1,0,1,0,88, 0,0, 2,0,48,49, 0,0, 1,0,48,49,48,48,48,48,48,48,48,48, 0,0]
private def exSV : Val :=
  .msg 79 [.str [72, 105], .str [], .str [], .str [49, 50, 48, 48, 51, 52, 48, 48],
    .str [65, 32, 66, 32, 32, 32, 32], .str [], .strs [[88]], .strs [], .strs [[], [49]], .strs [],
    .strs [[48, 49]], .strs []]
private theorem exS_dec : decTy Pinned.env 2 79 (exS ++ [0xEE]) = .ok (exSV, [0xEE]) :=
  Outcome.ok_of_eqb (by decide +kernel)

example : ∃ c, exS ++ [0xEE] = c ++ [0xEE] ∧ ∀ pre, encTy Pinned.env 2 79 exSV pre = .ok (exSV, pre ++ c) :=
  dec_enc Pinned.env pinned_mirror pinned_keys pinned_framesTop 2 79 _ _ _ (by decide +kernel) exS_dec
example (pre : Bytes) : encTy Pinned.env 2 79 exSV pre = .ok (exSV, pre ++ exS) := by
  obtain ⟨c, hc, h⟩ := dec_enc Pinned.env pinned_mirror pinned_keys pinned_framesTop 2 79 _ _ _
    (by decide +kernel) exS_dec
  obtain rfl : exS = c := List.append_cancel_right hc
  exact h pre

/-- bse.AllegeQuoteExtend070 (type 1): a 1-byte and a 6-byte text, right-padded with blanks; a leading
    blank and an interior blank survive -/
example (pre : Bytes) :
    decTy Pinned.env 1 1 [32, 32,65,32,66,32,32, 0xEE] = .ok (.msg 1 [.str [], .str [32, 65, 32, 66]], [0xEE]) ∧
    encTy Pinned.env 1 1 (.msg 1 [.str [], .str [32, 65, 32, 66]]) pre = .ok (.msg 1 [.str [], .str [32, 65, 32, 66]],
      pre ++ [32, 32,65,32,66,32,32]) := by
  have hd : decTy Pinned.env 1 1 ([32, 32,65,32,66,32,32] ++ [0xEE]) =
      .ok (.msg 1 [.str [], .str [32, 65, 32, 66]], [0xEE]) :=
    Outcome.ok_of_eqb (by decide +kernel)
  obtain ⟨c, hc, h⟩ := dec_enc Pinned.env pinned_mirror pinned_keys pinned_framesTop 1 1 _ _ _
    (by decide +kernel) hd
  obtain rfl := List.append_cancel_right hc
  exact ⟨hd, h pre⟩

/-- bse.BjseBinary (type 3, a plain type in the pinned schema): a union selected by an earlier field, an
    all-ones scalar -/
example (pre : Bytes) :
    encTy Pinned.env 2 3 (.msg 3 [.num 3, .num 0xFFFFFFFF, .msg 24 [], .num 67305985]) pre =
      .ok (.msg 3 [.num 3, .num 0xFFFFFFFF, .msg 24 [], .num 67305985],
        pre ++ [3,0,0,0, 255,255,255,255, 1,2,3,4]) := by
  have hd : decTy Pinned.env 2 3 ([3,0,0,0, 255,255,255,255, 1,2,3,4] ++ []) =
      .ok (.msg 3 [.num 3, .num 0xFFFFFFFF, .msg 24 [], .num 67305985], []) :=
    Outcome.ok_of_eqb (by decide +kernel)
  obtain ⟨c, hc, h⟩ := dec_enc Pinned.env pinned_mirror pinned_keys pinned_framesTop 2 3 _ _ _
    (by decide +kernel) hd
  obtain rfl := List.append_cancel_right hc
  exact h pre

/-- bse.PlatformInfo (type 30): a repeating group of two bse.NoPartitions (type 28) entries -/
private def exP : Bytes :=
  [9,0, 2,0, 7,0,0,0, 65,32,32,32,32,32,32,32,32,32,32,32,32,32,32,32,32,32,32,32,
             8,0,0,0, 66,67,32,32,32,32,32,32,32,32,32,32,32,32,32,32,32,32,32,32]
private def exPV : Val :=
  .msg 30 [.num 9, .msgs [.msg 28 [.num 7, .str [65]], .msg 28 [.num 8, .str [66, 67]]]]
example (pre : Bytes) : encTy Pinned.env 3 30 exPV pre = .ok (exPV, pre ++ exP) := by
  have hd : decTy Pinned.env 3 30 (exP ++ []) = .ok (exPV, []) := Outcome.ok_of_eqb (by decide +kernel)
  obtain ⟨c, hc, h⟩ := dec_enc Pinned.env pinned_mirror pinned_keys pinned_framesTop 3 30 _ _ _
    (by decide +kernel) hd
  obtain rfl := List.append_cancel_right hc
  exact h pre

/-! frames: sse.SseBinary (type 96) holding an sse body of type 94 (two 2-byte scalars) -/

private theorem ex96 : Pinned.env.types[96]? = some Pinned.t96 := rfl

/-- a frame whose length field (9) and checksum (0x09090909) are WRONG is accepted by the decoder … -/
private def exF : Bytes := [0,0,0,209, 0,0,0,0,0,0,0,7, 0,0,0,9, 0,1,0,2, 9,9,9,9]
private def exFV : Val := .msg 96 [.num 209, .num 7, .num 9, .msg 94 [.num 1, .num 2], .num 0x09090909]
private theorem exF_dec : decTy Pinned.env 3 96 (exF ++ [0xEE]) = .ok (exFV, [0xEE]) :=
  Outcome.ok_of_eqb (by decide +kernel)

example : ∃ c v' c', exF ++ [0xEE] = c ++ [0xEE] ∧
    (∀ pre, encTy Pinned.env 3 96 exFV pre = .ok (v', pre ++ c')) ∧ c'.length = c.length ∧ (c' = c ↔ v' = exFV) :=
  dec_enc_frame_iff Pinned.env pinned_mirror pinned_keys pinned_framesTop ex96 rfl exF_dec
-- … and re-encoding corrects exactly those two fields (length 4, SSE checksum 0xDF+… = 223)
example : encTy Pinned.env 3 96 exFV [] =
    .ok (.msg 96 [.num 209, .num 7, .num 4, .msg 94 [.num 1, .num 2], .num 223],
      [0,0,0,209, 0,0,0,0,0,0,0,7, 0,0,0,4, 0,1,0,2, 0,0,0,223]) :=
  Outcome.ok_of_eqb (by decide +kernel)

/-- the same frame with correct length and checksum is reproduced byte for byte, message unchanged -/
private def exG : Bytes := [0,0,0,209, 0,0,0,0,0,0,0,7, 0,0,0,4, 0,1,0,2, 0,0,0,223]
private def exGV : Val := .msg 96 [.num 209, .num 7, .num 4, .msg 94 [.num 1, .num 2], .num 223]
private theorem exG_dec : decTy Pinned.env 3 96 (exG ++ [0xEE]) = .ok (exGV, [0xEE]) :=
  Outcome.ok_of_eqb (by decide +kernel)
example : encTy Pinned.env 3 96 exGV [] = .ok (exGV, exG) :=
  Outcome.ok_of_eqb (by decide +kernel)
example : ∃ hv body hdrBytes lenBytes bodyBytes cksBytes,
    exG ++ [0xEE] = (hdrBytes ++ lenBytes ++ bodyBytes ++ cksBytes) ++ [0xEE] ∧
    lenBytes.length = 4 ∧ exGV = .msg 96 (hv ++ [.num (ofE .be lenBytes), body] ++ [.num (ofE .be cksBytes)]) := by
  obtain ⟨hv, body, hb, lb, bb, cb, h1, h2, _, h4, _⟩ :=
    dec_enc_frame Pinned.env pinned_mirror pinned_keys pinned_framesTop ex96 rfl exG_dec
  exact ⟨hv, body, hb, lb, bb, cb, h1, h2, h4⟩

end Examples

end FinProto
