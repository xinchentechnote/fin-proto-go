/-
  Encoder-side theorems of the schema interpreter: C06 (append-only, context-free, concatenation,
  idempotence), C04/C05 (the shape of a self-measuring frame), C17 (no panic).  Generic over `env : Env`.
-/
import FinProto.Props.EncForm
import FinProto.Props.ValEq
namespace FinProto

/-- C06: what an encoder step returns and appends does not depend on what the buffer held -/
def CtxFree (x : E α) : Prop :=
  (∃ a bs, ∀ pre, x pre = .ok (a, pre ++ bs)) ∨ (∀ pre, x pre = .err) ∨ (∀ pre, x pre = .panic)

theorem Appends.ctxFree {x : E α} (hx : Appends x) : CtxFree x := by
  cases h : x [] with
  | ok p => exact .inl ⟨p.1, p.2, fun pre => by rw [hx pre, h]; rfl⟩
  | err => exact .inr (.inl fun pre => by rw [hx pre, h]; rfl)
  | panic => exact .inr (.inr fun pre => by rw [hx pre, h]; rfl)

theorem CtxFree.appends {x : E α} (hx : CtxFree x) : Appends x := by
  rcases hx with ⟨a, bs, h⟩ | h | h
  · exact .of_lift (o := .ok (a, bs)) h
  · exact .of_lift (o := .err) h
  · exact .of_lift (o := .panic) h

theorem Appends.of_not_ok {x : E α} (hx : Appends x) {pre : Bytes} {o : Outcome (α × Bytes)} (h : x pre = o)
    (ho : ∀ p, o ≠ .ok p) : ∀ pre', x pre' = o := by
  subst h
  rcases hx.ctxFree with ⟨a, bs, h⟩ | h | h
  · exact absurd (h pre) (ho _)
  · exact fun pre' => (h pre').trans (h pre).symm
  · exact fun pre' => (h pre').trans (h pre).symm

theorem ctxFree_encTy (env : Env) : ∀ f ty v, CtxFree (encTy env f ty v) :=
  fun f ty v => (appends_encTy env f ty v).ctxFree

/-- C06: a successful encode leaves every byte already in the buffer untouched -/
theorem enc_append_only {env : Env} {f ty : Nat} {v v' : Val} {pre out : Bytes}
    (h : encTy env f ty v pre = .ok (v', out)) : ∃ bs, out = pre ++ bs := by
  obtain ⟨bs, _, hbs⟩ := (appends_encTy env f ty v).eq_ok.mp h
  exact ⟨bs, hbs⟩

/-- C06: the bytes appended and the updated message do not depend on what the buffer held -/
theorem enc_context_free {env : Env} {f ty : Nat} {v v' : Val} {pre bs : Bytes}
    (h : encTy env f ty v pre = .ok (v', pre ++ bs)) : ∀ pre', encTy env f ty v pre' = .ok (v', pre' ++ bs) := by
  obtain ⟨bs', h0, hbs⟩ := (appends_encTy env f ty v).eq_ok.mp h
  cases List.append_cancel_left hbs
  exact fun pre' => (appends_encTy env f ty v).eq_ok.mpr ⟨bs, h0, rfl⟩

theorem enc_err_context_free {env : Env} {f ty : Nat} {v : Val} {pre : Bytes}
    (h : encTy env f ty v pre = .err) : ∀ pre', encTy env f ty v pre' = .err :=
  (appends_encTy env f ty v).of_not_ok h nofun

theorem enc_panic_context_free {env : Env} {f ty : Nat} {v : Val} {pre : Bytes}
    (h : encTy env f ty v pre = .panic) : ∀ pre', encTy env f ty v pre' = .panic :=
  (appends_encTy env f ty v).of_not_ok h nofun

def encMany (env : Env) (f : Nat) : List (Nat × Val) → E (List Val)
  | [] => fun buf => .ok ([], buf)
  | m :: ms => bindE (encTy env f m.1 m.2) (fun v' => mapE (fun vs' => v' :: vs') (encMany env f ms))

theorem appends_encMany (env : Env) (f : Nat) : ∀ ms, Appends (encMany env f ms)
  | [] => appends_pure _
  | _ :: ms => appends_bindE (appends_encTy env f _ _) fun _ => appends_mapE _ (appends_encMany env f ms)

theorem ctxFree_encMany (env : Env) (f : Nat) : ∀ ms, CtxFree (encMany env f ms) :=
  fun ms => (appends_encMany env f ms).ctxFree

def encEach (env : Env) (f : Nat) : List (Nat × Val) → Outcome (List (Val × Bytes))
  | [] => .ok []
  | m :: ms => (encTy env f m.1 m.2 []).bind (fun r => (encEach env f ms).map (fun rs => r :: rs))

/-- C06: encoding messages back to back into a buffer behaves (success, failure and panic alike) as
    encoding each alone into the empty buffer; on success the buffer is `pre ++` the concatenation of the
    individual encodings and the updated messages are the individually updated messages -/
theorem enc_concat (env : Env) (f : Nat) (ms : List (Nat × Val)) (pre : Bytes) :
    encMany env f ms pre =
      (encEach env f ms).map (fun rs => (rs.map (·.1), pre ++ (rs.map (·.2)).flatten)) := by
  induction ms generalizing pre with
  | nil => simp [encMany, encEach]
  | cons m ms ih =>
    simp only [encMany, encEach, bindE, mapE, appends_encTy env f m.1 m.2 pre]
    cases encTy env f m.1 m.2 [] with
    | ok p =>
      simp only [lift, Outcome.map_ok, Outcome.bind_ok, ih]
      cases encEach env f ms <;> simp [List.append_assoc]
    | err => rfl
    | panic => rfl

theorem enc_concat_ok {env : Env} {f : Nat} {ms : List (Nat × Val)} {pre out : Bytes} {vs' : List Val}
    (h : encMany env f ms pre = .ok (vs', out)) :
    ∃ rs, encEach env f ms = .ok rs ∧ vs' = rs.map (·.1) ∧ out = pre ++ (rs.map (·.2)).flatten := by
  rw [enc_concat, Outcome.map_eq_ok] at h
  obtain ⟨rs, h1, h2⟩ := h
  simp only [Prod.mk.injEq] at h2
  exact ⟨rs, h1, h2.1.symm, h2.2.symm⟩

/-- C04/C05: the bytes and the updated message a self-measuring frame's encoder produces, in terms of the
    header's and the body's own encodings (into the empty buffer) -/
theorem frame_shape {env : Env} {f ty : Nat} {td : TyDef} {fd : FrameDesc} {fields : List Val}
    {pre out : Bytes} {v' : Val}
    (htd : env.types[ty]? = some td) (hfr : td.frame = some fd)
    (h : encTy env (f + 1) ty (.msg ty fields) pre = .ok (v', out)) :
    ∃ hv hdrBytes body body' bodyBytes,
      encSeq (encOp env (encTy env f) (zeroTy env f) fields) fd.hdr (fields.take fd.hdr.length) []
        = .ok (hv, hdrBytes) ∧
      fields[fd.hdr.length + 1]? = some body ∧
      encPtr (encTy env f) fd.g ((unionTy env fd.key fd.tbl fields).map (zeroTy env f))
        (unionTy env fd.key fd.tbl fields) body [] = .ok (body', bodyBytes) ∧
      (fd.cks = none →
        fields.length = fd.hdr.length + 2 ∧
        out = pre ++ frameBytes fd hdrBytes bodyBytes ∧
        v' = .msg ty (hv ++ [.num (frameLen bodyBytes), body'])) ∧
      (∀ alg w, fd.cks = some (alg, w) →
        fields.length = fd.hdr.length + 3 ∧
        out = pre ++ frameBytes fd hdrBytes bodyBytes ++ toE fd.e w (cksNat alg (frameBytes fd hdrBytes bodyBytes)) ∧
        v' = .msg ty (hv ++ [.num (frameLen bodyBytes), body', .num (cksNat alg (frameBytes fd hdrBytes bodyBytes))])) := by
  obtain ⟨hv, hb, body, body', bb, h1, h2, h3, hl, rfl, rfl⟩ := (encTy_frame_eq_ok htd hfr).mp h
  refine ⟨hv, hb, body, body', bb, h1, h2, h3, fun hc => ?_, fun alg w hc => ?_⟩
  · simp only [FrameDesc.trailer, hc] at hl
    exact ⟨hl, by simp only [FrameDesc.trailer, hc, List.append_nil], by simp only [FrameDesc.trailer, hc]⟩
  · simp only [FrameDesc.trailer, hc] at hl
    exact ⟨hl, by simp only [FrameDesc.trailer, hc, List.append_assoc], by simp only [FrameDesc.trailer, hc]⟩

theorem drop_take_mid {a b c : List α} {n m : Nat} (hn : a.length = n) (hm : b.length = m) :
    ((a ++ b ++ c).drop n).take m = b := by
  rw [List.append_assoc, List.drop_left' hn, List.take_left' hm]

/-- C04: with a 4-byte length field and a body shorter than 2^32 bytes, the length on the wire decodes to
    exactly the number of body bytes, the body bytes follow it, and the returned message reports the same
    number — whatever stale length `fields[fd.hdr.length]` the caller supplied and whatever `pre` held -/
theorem frame_len_exact {env : Env} {f ty : Nat} {td : TyDef} {fd : FrameDesc} {fields : List Val}
    {pre out : Bytes} {v' : Val}
    (htd : env.types[ty]? = some td) (hfr : td.frame = some fd) (hw : fd.lenW = 4)
    (h : encTy env (f + 1) ty (.msg ty fields) pre = .ok (v', out)) :
    ∃ hv hdrBytes body body' bodyBytes,
      encSeq (encOp env (encTy env f) (zeroTy env f) fields) fd.hdr (fields.take fd.hdr.length) []
        = .ok (hv, hdrBytes) ∧
      fields[fd.hdr.length + 1]? = some body ∧
      encPtr (encTy env f) fd.g ((unionTy env fd.key fd.tbl fields).map (zeroTy env f))
        (unionTy env fd.key fd.tbl fields) body [] = .ok (body', bodyBytes) ∧
      (bodyBytes.length < 2 ^ 32 →
        ofE fd.e (toE fd.e 4 (frameLen bodyBytes)) = bodyBytes.length ∧
        ofE fd.e ((out.drop (pre.length + hdrBytes.length)).take 4) = bodyBytes.length ∧
        (out.drop (pre.length + hdrBytes.length + 4)).take bodyBytes.length = bodyBytes ∧
        ∃ fs, v' = .msg ty fs ∧ fs[fd.hdr.length]? = some (.num bodyBytes.length)) := by
  obtain ⟨hv, hb, body, body', bb, h1, h2, h3, _, rfl, rfl⟩ := (encTy_frame_eq_ok htd hfr).mp h
  have hl := (encSeq_length h1).2
  refine ⟨hv, hb, body, body', bb, h1, h2, h3, ?_⟩
  intro hlt
  have hfl : frameLen bb = bb.length := Nat.mod_eq_of_lt hlt
  have hdec : ofE fd.e (toE fd.e 4 bb.length) = bb.length := ofE_toE_of_lt _ _ _ (by omega)
  rw [hfl]
  refine ⟨hdec, ?_, ?_, _, rfl, ?_⟩
  · have e : pre ++ (frameBytes fd hb bb ++ (fd.trailer (frameBytes fd hb bb)).2)
        = (pre ++ hb) ++ toE fd.e 4 bb.length ++ (bb ++ (fd.trailer (frameBytes fd hb bb)).2) := by
      simp only [frameBytes, hw, hfl, List.append_assoc]
    rw [e, drop_take_mid (by simp) (by simp)]
    exact hdec
  · have e : pre ++ (frameBytes fd hb bb ++ (fd.trailer (frameBytes fd hb bb)).2)
        = (pre ++ hb ++ toE fd.e 4 bb.length) ++ bb ++ (fd.trailer (frameBytes fd hb bb)).2 := by
      simp only [frameBytes, hw, hfl, List.append_assoc]
    rw [e, drop_take_mid (by simp only [List.length_append, toE_length]) rfl]
  · rw [← hl]
    simp

/-- C05: the checksum trailer is `cksNat alg` of exactly the frame's own bytes — first header byte through
    last body byte, with the corrected length, without `pre` — and the returned message reports the same
    value, whatever stale checksum (and length) the caller supplied -/
theorem frame_cks_exact {env : Env} {f ty : Nat} {td : TyDef} {fd : FrameDesc} {fields : List Val}
    {pre out : Bytes} {v' : Val} {alg : Alg} {w : Nat}
    (htd : env.types[ty]? = some td) (hfr : td.frame = some fd) (hc : fd.cks = some (alg, w))
    (h : encTy env (f + 1) ty (.msg ty fields) pre = .ok (v', out)) :
    ∃ hv hdrBytes body body' bodyBytes,
      encSeq (encOp env (encTy env f) (zeroTy env f) fields) fd.hdr (fields.take fd.hdr.length) []
        = .ok (hv, hdrBytes) ∧
      fields[fd.hdr.length + 1]? = some body ∧
      encPtr (encTy env f) fd.g ((unionTy env fd.key fd.tbl fields).map (zeroTy env f))
        (unionTy env fd.key fd.tbl fields) body [] = .ok (body', bodyBytes) ∧
      out = pre ++ frameBytes fd hdrBytes bodyBytes ++ toE fd.e w (cksNat alg (frameBytes fd hdrBytes bodyBytes)) ∧
      (out.drop pre.length).take (hdrBytes.length + fd.lenW + bodyBytes.length) = frameBytes fd hdrBytes bodyBytes ∧
      out.drop (pre.length + (hdrBytes.length + fd.lenW + bodyBytes.length))
        = toE fd.e w (cksNat alg (frameBytes fd hdrBytes bodyBytes)) ∧
      ofE fd.e (out.drop (pre.length + (hdrBytes.length + fd.lenW + bodyBytes.length)))
        = cksNat alg (frameBytes fd hdrBytes bodyBytes) % 256 ^ w ∧
      ∃ fs, v' = .msg ty fs ∧ fs[fd.hdr.length]? = some (.num (frameLen bodyBytes)) ∧
        fs[fd.hdr.length + 2]? = some (.num (cksNat alg (frameBytes fd hdrBytes bodyBytes))) := by
  obtain ⟨hv, hb, body, body', bb, h1, h2, h3, _, rfl, rfl⟩ := (encTy_frame_eq_ok htd hfr).mp h
  simp only [FrameDesc.trailer, hc, ← List.append_assoc]
  have hl := (encSeq_length h1).2
  have hfl : (frameBytes fd hb bb).length = hb.length + fd.lenW + bb.length := by
    simp only [frameBytes, List.length_append, toE_length]
  have hdrop : (pre ++ frameBytes fd hb bb ++ toE fd.e w (cksNat alg (frameBytes fd hb bb))).drop
      (pre.length + (hb.length + fd.lenW + bb.length)) = toE fd.e w (cksNat alg (frameBytes fd hb bb)) :=
    List.drop_left' (by simp only [List.length_append, hfl])
  refine ⟨hv, hb, body, body', bb, h1, h2, h3, rfl, drop_take_mid rfl hfl, hdrop, ?_, _, rfl, ?_, ?_⟩
  · rw [hdrop, ofE_toE]
  · rw [← hl]
    simp
  · rw [← hl]
    simp

theorem encAll_length {f : Val → E Val} {vs vs' : List Val} {pre out : Bytes}
    (h : encAll f vs pre = .ok (vs', out)) : vs'.length = vs.length := by
  induction vs generalizing vs' pre with
  | nil =>
    cases h
    rfl
  | cons v vs ih =>
    obtain ⟨v1, mid, _, hm⟩ := bindE_eq_ok.mp h
    obtain ⟨vs1, h2, rfl⟩ := mapE_eq_ok.mp hm
    exact congrArg (· + 1) (ih h2)

theorem idem_encSeq {step step' : Op → Val → E Val}
    (hs : ∀ op v pre v' out, step op v pre = .ok (v', out) → step' op v' pre = .ok (v', out)) :
    ∀ {ops : List Op} {vs vs' : List Val} {pre out : Bytes},
      encSeq step ops vs pre = .ok (vs', out) → encSeq step' ops vs' pre = .ok (vs', out)
  | [], [] => fun h => by
    cases h
    rfl
  | [], _ :: _ => fun h => by cases h
  | _ :: _, [] => fun h => by cases h
  | _ :: _, _ :: _ => fun h => by
    obtain ⟨v1, mid, h1, hm⟩ := bindE_eq_ok.mp h
    obtain ⟨vs1, h2, rfl⟩ := mapE_eq_ok.mp hm
    exact bindE_eq_ok.mpr ⟨v1, mid, hs _ _ _ _ _ h1, mapE_eq_ok.mpr ⟨vs1, idem_encSeq hs h2, rfl⟩⟩

theorem idem_encAll {f : Val → E Val}
    (hf : ∀ v pre v' out, f v pre = .ok (v', out) → f v' pre = .ok (v', out))
    {vs vs' : List Val} {pre out : Bytes} (h : encAll f vs pre = .ok (vs', out)) :
    encAll f vs' pre = .ok (vs', out) := by
  induction vs generalizing vs' pre with
  | nil =>
    cases h
    rfl
  | cons v vs ih =>
    obtain ⟨v1, mid, h1, hm⟩ := bindE_eq_ok.mp h
    obtain ⟨vs1, h2, rfl⟩ := mapE_eq_ok.mp hm
    exact bindE_eq_ok.mpr ⟨v1, mid, hf _ _ _ _ h1, mapE_eq_ok.mpr ⟨vs1, ih h2, rfl⟩⟩

/-- `mk'`, `ty?'` are arbitrary (the discriminator may have changed by the second run): the returned value is a
    skipped nil or a message, and `encPtr` consults them for neither -/
theorem idem_encPtr {env : Env} {f : Nat}
    (hi : ∀ ty v pre v' out, encTy env f ty v pre = .ok (v', out) → encTy env f ty v' pre = .ok (v', out))
    {g : Guard} {mk : Option Val} {ty? : Option Nat} {v v' : Val} {pre out : Bytes}
    (h : encPtr (encTy env f) g mk ty? v pre = .ok (v', out)) (mk' : Option Val) (ty?' : Option Nat) :
    encPtr (encTy env f) g mk' ty?' v' pre = .ok (v', out) := by
  have key : ∀ ty w, encTy env f ty w pre = .ok (v', out) → encPtr (encTy env f) g mk' ty?' v' pre = .ok (v', out) := by
    intro ty w hw
    obtain ⟨fs, rfl⟩ := encTy_ok_msg hw
    exact hi _ _ _ _ _ hw
  refine encPtr_cases (motive := fun x => x pre = .ok (v', out) → _) (encTy env f) g mk ty? v
    (fun _ _ h => by cases h) (fun h => by cases h) (fun hg _ h => ?_) (fun z ty _ _ _ _ => key ty z)
    (fun ty fs _ => key ty v) h
  cases h
  rw [hg]
  rfl

/-- `all'` is arbitrary: by the second run the surrounding message, which union statements read, has changed -/
theorem idem_encOp {env : Env} {f : Nat} {zero : Nat → Val}
    (hi : ∀ ty v pre v' out, encTy env f ty v pre = .ok (v', out) → encTy env f ty v' pre = .ok (v', out))
    {all : List Val} (all' : List Val) {op : Op} {v v' : Val} {pre out : Bytes}
    (h : encOp env (encTy env f) zero all op v pre = .ok (v', out)) :
    encOp env (encTy env f) zero all' op v' pre = .ok (v', out) := by
  revert h
  refine encOp_cases (motive := fun x => x pre = .ok (v', out) → _) env (encTy env f) zero all op v ?_ nofun ?_ ?_ ?_ ?_
  · intro o hl hw h
    obtain ⟨bs, rfl, rfl, rfl⟩ := emit_eq_ok.mp h
    exact (encOp_leaf_eq_ok hl).mpr ⟨bs, hw, rfl, rfl⟩
  · rintro ty g fs rfl rfl h
    obtain ⟨fs', rfl⟩ := encTy_ok_msg h
    simp only [encOp, if_true]
    exact hi _ _ _ _ _ h
  · rintro ty g rfl rfl h
    cases g <;> first | (cases h; done) | skip
    · obtain ⟨fs', rfl⟩ := encTy_ok_msg h
      simp only [encOp, if_true]
      exact hi _ _ _ _ _ h
    · cases h
      rfl
  · rintro cw ty e l rfl rfl h
    obtain ⟨_, mid, h1, h2⟩ := bindE_eq_ok.mp h
    obtain ⟨l', hl', rfl⟩ := mapE_eq_ok.mp h2
    simp only [encOp, encAll_length hl']
    exact bindE_eq_ok.mpr ⟨(), mid, h1, mapE_eq_ok.mpr ⟨l', idem_encAll (hi ty) hl', rfl⟩⟩
  · rintro key tbl g rfl h
    rw [encOp_union]
    exact idem_encPtr hi h _ _

/-- C06 idempotence: encoding again the message a previous encode returned (computed length and checksum
    filled in, absent bodies materialised) yields the same bytes and the same message.  No side condition
    on `env` is needed. -/
theorem enc_idempotent {env : Env} : ∀ {f ty : Nat} {v v' : Val} {pre out : Bytes},
    encTy env f ty v pre = .ok (v', out) → encTy env f ty v' pre = .ok (v', out) := by
  intro f
  induction f with
  | zero =>
    intro ty v v' pre out h
    cases h
  | succ f ih =>
    have hi : ∀ ty v pre v' out, encTy env f ty v pre = .ok (v', out) → encTy env f ty v' pre = .ok (v', out) :=
      fun _ _ _ _ _ h => ih h
    intro ty v v' pre out h
    obtain ⟨fields, td, rfl, htd⟩ := encTy_succ_inv h
    cases hfr : td.frame with
    | none =>
      obtain ⟨fs, h1, rfl⟩ := (encTy_plain_eq_ok htd hfr).mp h
      exact (encTy_plain_eq_ok htd hfr).mpr ⟨fs, idem_encSeq
        (step' := encOp env (encTy env f) (zeroTy env f) fs) (fun _ _ _ _ _ h => idem_encOp hi _ h) h1, rfl⟩
    | some fd =>
      obtain ⟨hv, hb, body, body', bb, h1, h2, h3, hl, rfl, rfl⟩ := (encTy_frame_eq_ok htd hfr).mp h
      -- the returned field list: its header part, its body and its length are those of the run that made it
      obtain ⟨e1, e2, e3⟩ := take_frameFields (encSeq_length h1).2 (.num (frameLen bb)) body'
        (fd.trailer (frameBytes fd hb bb)).1
      refine (encTy_frame_eq_ok htd hfr).mpr ⟨hv, hb, body', body', bb, ?_, e2, ?_, e3, rfl, rfl⟩
      · rw [e1]
        exact idem_encSeq (step' := encOp env (encTy env f) (zeroTy env f) _)
          (fun _ _ _ _ _ h => idem_encOp hi _ h) h1
      · exact idem_encPtr hi h3 _ _

theorem np_encSeq {step : Op → Val → E Val} :
    ∀ ops vs, (∀ op ∈ ops, ∀ v ∈ vs, NoPanic (step op v)) → NoPanic (encSeq step ops vs)
  | [], [] => fun _ => np_pureR _
  | [], _ :: _ => fun _ => np_failR
  | _ :: _, [] => fun _ => np_failR
  | op :: ops, v :: vs => fun hs =>
    np_bindR (hs op (List.mem_cons_self ..) v (List.mem_cons_self ..)) fun _ =>
      np_mapE _ (np_encSeq ops vs fun op' ho v' hv' =>
        hs op' (List.mem_cons_of_mem _ ho) v' (List.mem_cons_of_mem _ hv'))

theorem np_encAll {f : Val → E Val} : ∀ vs, (∀ v ∈ vs, NoPanic (f v)) → NoPanic (encAll f vs)
  | [], _ => np_pureR _
  | v :: vs, hs =>
    np_bindR (hs v (List.mem_cons_self ..)) fun _ =>
      np_mapE _ (np_encAll vs fun v' hv' => hs v' (List.mem_cons_of_mem _ hv'))

theorem noNilElemsL_mem {l : List Val} {s : Bool} (h : noNilElemsL l s = true) :
    ∀ v ∈ l, noNilElems v = true ∧ (s = true → v ≠ .nil) := by
  induction l with
  | nil => intro v hv; cases hv
  | cons a as ih =>
    simp only [noNilElemsL, Bool.and_eq_true] at h
    obtain ⟨⟨h1, h2⟩, h3⟩ := h
    intro v hv
    rcases List.mem_cons.mp hv with rfl | hv
    · refine ⟨h2, ?_⟩
      rintro rfl rfl
      simp at h1
    · exact ih h3 v hv

theorem noNilElemsL_false_of {l : List Val} (h : ∀ v ∈ l, noNilElems v = true) : noNilElemsL l false = true := by
  induction l with
  | nil => simp only [noNilElemsL]
  | cons a as ih =>
    simp only [noNilElemsL, Bool.and_eq_true]
    exact ⟨⟨trivial, h a (List.mem_cons_self ..)⟩, ih (fun v hv => h v (List.mem_cons_of_mem _ hv))⟩

/-- zero values (`&T{}`) contain no nil element: their repeating groups are empty -/
theorem noNilElems_zeroTy (env : Env) : ∀ f ty, noNilElems (zeroTy env f ty) = true := by
  intro f
  induction f with
  | zero => intro ty; simp only [zeroTy, noNilElems]
  | succ f ih =>
    intro ty
    simp only [zeroTy]
    split
    · simp only [noNilElems]
      apply noNilElemsL_false_of
      intro v hv
      obtain ⟨op, _, rfl⟩ := List.mem_map.mp hv
      cases op <;> simp only [zeroOp, noNilElems, noNilElemsL]
      split
      · exact ih _
      · simp only [noNilElems]
    · simp only [noNilElems]

theorem np_encPtr {enc : Nat → Val → E Val}
    (henc : ∀ ty v, v ≠ .nil → noNilElems v = true → NoPanic (enc ty v))
    {g : Guard} (hg : g ≠ .none) {mk : Option Val} {ty? : Option Nat}
    (hmk : ∀ z t, mk = some z → ty? = some t → NoPanic (enc t z))
    {v : Val} (hv : noNilElems v = true) : NoPanic (encPtr enc g mk ty? v) :=
  encPtr_cases enc g mk ty? v (fun h _ => absurd h hg) np_failR (fun _ _ => np_pureR _)
    (fun z t _ _ h1 h2 => hmk z t h1 h2) (fun _ _ h => henc _ _ (h ▸ nofun) hv)

theorem np_encOp {env : Env} (hr : env.refsOK = true) {enc : Nat → Val → E Val} {zero : Nat → Val}
    (henc : ∀ ty v, v ≠ .nil → noNilElems v = true → NoPanic (enc ty v))
    (hz : ∀ t, t < env.types.length → NoPanic (enc t (zero t)))
    (all : List Val) {op : Op} (hg : op.guardOK = true) (hor : op.refsOK env = true)
    {v : Val} (hv : noNilElems v = true) : NoPanic (encOp env enc zero all op v) := by
  refine encOp_cases env enc zero all op v ?_ np_failR ?_ ?_ ?_ ?_
  · exact fun o _ hw => np_emit _ fun ho => Op.write_ne_panic op v (hw.trans (congrArg some ho))
  · rintro ty g fs _ rfl
    exact henc _ _ nofun hv
  · rintro ty g rfl _
    refine np_encPtr henc ?_ (fun z t h1 h2 => ?_) rfl
    · rintro rfl
      cases hg
    · cases h1
      cases h2
      exact hz _ (of_decide_eq_true hor)
  · rintro cw ty e l _ rfl
    refine np_bindR (np_emit _ (writeLen_ne_panic _ _ _)) fun _ => np_mapE _ (np_encAll _ fun x hx => ?_)
    obtain ⟨h1, h2⟩ := noNilElemsL_mem (by simpa only [noNilElems] using hv) x hx
    exact henc ty x (h2 rfl) h1
  · rintro key tbl g rfl
    refine np_encPtr henc ?_ (fun z t h1 h2 => ?_) hv
    · rintro rfl
      cases hg
    · rw [h2] at h1
      cases h1
      exact hz t (Env.refsOK_unionTy hr h2)

theorem np_encFrame {env : Env} {enc : Nat → Val → E Val} (henc : ∀ ty v, Appends (enc ty v))
    {zero : Nat → Val} {fd : FrameDesc} {ty : Nat} {fields : List Val}
    (hhdr : NoPanic (encSeq (encOp env enc zero fields) fd.hdr (fields.take fd.hdr.length)))
    (hbody : ∀ body, fields[fd.hdr.length + 1]? = some body →
      NoPanic (encPtr enc fd.g ((unionTy env fd.key fd.tbl fields).map zero) (unionTy env fd.key fd.tbl fields) body)) :
    NoPanic (encFrame env enc zero fd ty fields) := by
  intro pre
  rw [encFrame_eq_lift henc]
  refine Outcome.map_ne_panic _ (Outcome.bind_ne_panic (hhdr []) fun p _ => ?_)
  dsimp only
  split
  · exact fun h => by cases h
  · rename_i body h2
    refine Outcome.bind_ne_panic (hbody body h2 []) fun q _ => ?_
    split <;> exact fun h => by cases h

/-- C17, general form: with every nil-able field guarded (`guardsOK`, `hdrsOK`) and every type reference
    in range (`refsOK`, `hdrsOK`), encoding any non-nil value without nil ELEMENTS never panics -/
theorem np_encTy {env : Env} (hg : env.guardsOK = true) (hr : env.refsOK = true)
    (hh : env.hdrsOK = true) :
    ∀ f ty v, v ≠ .nil → noNilElems v = true → NoPanic (encTy env f ty v)
  | 0, _, _, _, _ => np_failR
  | f+1, ty, v, hnn, hv => by
    have ih := np_encTy hg hr hh f
    -- a materialised zero value: a message (the reference is in range), without nil elements
    have hz : ∀ t, t < env.types.length → NoPanic (encTy env f t (zeroTy env f t)) := by
      intro t ht
      cases f with
      | zero => exact np_failR
      | succ f' =>
        refine ih _ _ ?_ (noNilElems_zeroTy env _ _)
        simp only [zeroTy, List.getElem?_eq_getElem ht]
        exact fun h => by cases h
    refine encTy_succ_cases env f ty v np_failR (fun h => absurd h hnn) ?_ ?_
    · rintro fields td rfl htd _
      have hfs := noNilElemsL_mem (by simpa only [noNilElems] using hv)
      exact np_mapE _ (np_encSeq _ _ fun op hop v hvm =>
        np_encOp hr ih hz _ ((Env.guardsOK_at hg htd).1 op hop)
          ((Env.refsOK_at hr htd).2 op hop) (hfs v hvm).1)
    · rintro fields td fd rfl htd hfr
      have hfs := noNilElemsL_mem (by simpa only [noNilElems] using hv)
      have hh' := List.all_eq_true.mp hh td (Env.mem_types htd)
      simp only [hfr, Bool.and_eq_true, List.all_eq_true] at hh'
      refine np_encFrame (appends_encTy env f) (np_encSeq _ _ fun op hop v hvm =>
        np_encOp hr ih hz _ (hh' op hop).1 (hh' op hop).2 (hfs v (List.mem_of_mem_take hvm)).1)
        fun body hb => ?_
      refine np_encPtr ih ((Env.guardsOK_at hg htd).2 fd hfr) (fun z t h1 h2 => ?_)
        (hfs body (List.mem_of_getElem? hb)).1
      rw [h2] at h1
      cases h1
      exact hz t (Env.refsOK_unionTy hr h2)

/-- C17.  NOTE: the statement with `guardsOK` alone is false for the generic model (see the
    counterexamples below): `refsOK` and `hdrsOK` (or `mirrorOK`) are needed. -/
theorem enc_no_panic {env : Env} (hg : env.guardsOK = true) (hr : env.refsOK = true) (hh : env.hdrsOK = true) :
    ∀ f ty fs pre, noNilElems (.msg ty fs) = true → encTy env f ty (.msg ty fs) pre ≠ .panic :=
  fun f ty fs pre hv => np_encTy hg hr hh f ty _ (fun h => by cases h) hv pre

theorem enc_no_panic_of_mirrorOK {env : Env} (hg : env.guardsOK = true) (hr : env.refsOK = true)
    (hm : env.mirrorOK = true) :
    ∀ f ty fs pre, noNilElems (.msg ty fs) = true → encTy env f ty (.msg ty fs) pre ≠ .panic :=
  enc_no_panic hg hr (hdrsOK_of_mirrorOK hm)

section Examples

/-- type 0: a self-measuring frame (1-byte tag, 4-byte length, body selected by the tag through table 0,
    materialised when absent, `sse` checksum trailer); type 1: one 2-byte scalar; type 2: a repeating group of
    type 1 followed by a materialised pointer to type 1 -/
def exEnv : Env :=
  { types := [
      { nfields := 4, enc := [], dec := [.scalar 1 .be, .scalar 4 .be, .union 0 0 .mat, .scalar 4 .be],
        frame := some { hdr := [.scalar 1 .be], lenW := 4, e := .be, key := 0, tbl := 0, g := .mat,
                        cks := some (.sse, 4) } },
      { nfields := 1, enc := [.scalar 2 .be], dec := [.scalar 2 .be], frame := none },
      { nfields := 2, enc := [.objs 1 1 .be, .nested 1 .mat], dec := [.objs 1 1 .be, .nested 1 .mat],
        frame := none }],
    tables := [[(.n 7, 1), (.n 8, 2)]] }

/-- stale length 99, stale checksum 5, absent body: all three are recomputed / materialised -/
theorem exRun1 :
    encTy exEnv 3 0 (.msg 0 [.num 7, .num 99, .nil, .num 5]) [0xAA] =
      .ok (.msg 0 [.num 7, .num 2, .msg 1 [.num 0], .num 9], [0xAA] ++ [7, 0,0,0,2, 0,0, 0,0,0,9]) :=
  Outcome.ok_of_eqb (by decide +kernel)

/-- a stale "length" of the wrong kind, a body with a repeating group and a nil pointer inside -/
theorem exRun2 :
    encTy exEnv 3 0 (.msg 0 [.num 8, .str [1], .msg 2 [.msgs [.msg 1 [.num 258], .msg 1 [.num 3]], .nil], .nil])
        [0xAA] =
      .ok (.msg 0 [.num 8, .num 7, .msg 2 [.msgs [.msg 1 [.num 258], .msg 1 [.num 3]], .msg 1 [.num 0]], .num 23],
           [0xAA] ++ [8, 0,0,0,7, 2, 1,2, 0,3, 0,0, 0,0,0,23]) :=
  Outcome.ok_of_eqb (by decide +kernel)

example : ∃ bs, ([0xAA] ++ [7, 0,0,0,2, 0,0, 0,0,0,9] : Bytes) = [0xAA] ++ bs :=
  enc_append_only exRun1
example : ∀ pre', encTy exEnv 3 0 (.msg 0 [.num 7, .num 99, .nil, .num 5]) pre' =
    .ok (.msg 0 [.num 7, .num 2, .msg 1 [.num 0], .num 9], pre' ++ [7, 0,0,0,2, 0,0, 0,0,0,9]) :=
  enc_context_free exRun1
example : CtxFree (encTy exEnv 3 0 (.msg 0 [.num 7, .num 99, .nil, .num 5])) :=
  ctxFree_encTy _ _ _ _
example : encEach exEnv 3 [(0, .msg 0 [.num 7, .num 99, .nil, .num 5]), (1, .msg 1 [.num 513])] =
    .ok [(.msg 0 [.num 7, .num 2, .msg 1 [.num 0], .num 9], [7, 0,0,0,2, 0,0, 0,0,0,9]), (.msg 1 [.num 513], [2, 1])] := by
  rfl
example : encMany exEnv 3 [(0, .msg 0 [.num 7, .num 99, .nil, .num 5]), (1, .msg 1 [.num 513])] [1, 2, 3] =
    .ok ([.msg 0 [.num 7, .num 2, .msg 1 [.num 0], .num 9], .msg 1 [.num 513]],
         [1, 2, 3] ++ ([7, 0,0,0,2, 0,0, 0,0,0,9] ++ [2, 1])) := by
  rw [enc_concat]; rfl

example := frame_shape (env := exEnv) (f := 2) (ty := 0) (pre := [0xAA]) rfl rfl exRun1
example := frame_len_exact (env := exEnv) (f := 2) (ty := 0) (pre := [0xAA]) rfl rfl rfl exRun2
example := frame_cks_exact (env := exEnv) (f := 2) (ty := 0) (pre := [0xAA]) rfl rfl rfl exRun2

-- the returned message differs from the input and re-encodes to the same bytes and itself
example : encTy exEnv 3 0 (.msg 0 [.num 7, .num 2, .msg 1 [.num 0], .num 9]) [0xAA] =
    .ok (.msg 0 [.num 7, .num 2, .msg 1 [.num 0], .num 9], [0xAA] ++ [7, 0,0,0,2, 0,0, 0,0,0,9]) :=
  enc_idempotent exRun1
example : ∃ fs, Val.msg 0 [.num 7, .num 2, .msg 1 [.num 0], .num 9] = .msg 0 fs :=
  encTy_ok_msg exRun1

example : exEnv.guardsOK = true ∧ exEnv.refsOK = true ∧ exEnv.hdrsOK = true ∧ exEnv.mirrorOK = true := by decide
example : ∀ pre, encTy exEnv 3 0
    (.msg 0 [.num 8, .str [1], .msg 2 [.msgs [.msg 1 [.num 258], .msg 1 [.num 3]], .nil], .nil]) pre ≠ .panic :=
  fun pre => enc_no_panic (by decide) (by decide) (by decide) 3 0 _ pre (by decide)
/-- the exclusion is needed: a nil ELEMENT of a repeating group does panic -/
example : encTy exEnv 3 2 (.msg 2 [.msgs [.nil], .nil]) [] = .panic := by rfl

/-- `guardsOK` (and `refsOK`) do not look at a frame's header statements: an unguarded pointer there panics -/
def cexHdr : Env :=
  { types := [{ nfields := 3, enc := [], dec := [],
                frame := some { hdr := [.nested 0 .none], lenW := 4, e := .be, key := 0, tbl := 0, g := .skip,
                                cks := none } }],
    tables := [] }

theorem cexHdr_panics :
    cexHdr.guardsOK = true ∧ cexHdr.refsOK = true ∧ noNilElems (.msg 0 [.nil, .num 0, .nil]) = true ∧
      encTy cexHdr 1 0 (.msg 0 [.nil, .num 0, .nil]) [] = .panic :=
  ⟨by decide, by decide, by decide, by rfl⟩

/-- a materialising guard on a dangling type reference builds a nil "zero value" and dereferences it -/
def cexRef : Env :=
  { types := [{ nfields := 1, enc := [.nested 5 .mat], dec := [.nested 5 .mat], frame := none }], tables := [] }

theorem cexRef_panics :
    cexRef.guardsOK = true ∧ cexRef.hdrsOK = true ∧ cexRef.mirrorOK = true ∧
      noNilElems (.msg 0 [.nil]) = true ∧ encTy cexRef 2 0 (.msg 0 [.nil]) [] = .panic :=
  ⟨by decide, by decide, by decide, by decide, by rfl⟩

theorem enc_no_panic_guardsOK_alone_false :
    ¬ (∀ env : Env, env.guardsOK = true → ∀ f ty fs pre, noNilElems (.msg ty fs) = true →
        encTy env f ty (.msg ty fs) pre ≠ .panic) := fun h =>
  h cexHdr cexHdr_panics.1 1 0 _ [] cexHdr_panics.2.2.1 cexHdr_panics.2.2.2

end Examples

end FinProto
