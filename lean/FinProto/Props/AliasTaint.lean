/-
  Property C16, static-analysis form: a reader body whose returned local is statically clean
  (taint analysis `Prog.retClean`) returns a reference outside the buffer's backing array, hence its
  result is immune to any later mutation of the buffer.
-/
import FinProto.Props.AliasProofs

namespace FinProto.Alias

theorem ret_region_ne_buf {p : Prog} (hp : p.retClean = true) {s s' : State} {r : Ref}
    (hs : s.Initial) (hrun : run p s = some (r, s')) : r.region ≠ s.bufRegion := by
  -- `retClean` starts from the all-tainted taint; the returned region is fresh, the buffer's is not
  have := (run_inv hrun (Inv.of_initial hs _)).2.2 hp
  have := hs.1
  omega

theorem decode_immune_clean {p : Prog} (hp : p.retClean = true) {s s' : State} {r : Ref}
    (hs : s.Initial) (hrun : run p s = some (r, s')) (f : List UInt8 → List UInt8) :
    observe (scribble s'.mem s.bufRegion f) r = observe s'.mem r :=
  observe_scribble_ne _ _ _ _ (ret_region_ne_buf hp hs hrun)

theorem decode_immune_clean' {p : Prog} (hp : p.retClean = true) {s s' : State} {r : Ref}
    (hs : s.Initial) (hrun : run p s = some (r, s')) (f : List UInt8 → List UInt8) :
    observe (scribble s'.mem s'.bufRegion f) r = observe s'.mem r := by
  rw [(run_inv hrun (Inv.of_initial hs (fun _ => true))).1]; exact decode_immune_clean hp hs hrun f

theorem progReadString_retClean (len : Nat) : (progReadString len).retClean = true := rfl

theorem progReadFixedStringTrimPadding_retClean (n a b : Nat) :
    (progReadFixedStringTrimPadding n a b).retClean = true := rfl

theorem progReadBasicType_retClean (w : Nat) : (progReadBasicType w).retClean = true := rfl

theorem progViewString_not_retClean (n : Nat) : (progViewString n).retClean = false := rfl

theorem copyOfView_retClean (n : Nat) : Prog.retClean [.view 0 n, .toString 1 0, .ret 1] = true := rfl

theorem subOfView_not_retClean (n a b : Nat) :
    Prog.retClean [.view 0 n, .sub 1 0 a b, .ret 1] = false := rfl

theorem unsafeOfView_not_retClean (n : Nat) :
    Prog.retClean [.view 0 n, .unsafeString 1 0, .ret 1] = false := rfl

/-- `string(buf.Next(2))` on the buffer [1,2,3]: the returned reference is outside region 0 (the buffer) -/
example : (run [.view 0 2, .toString 1 0, .ret 1] (State.ofBuffer [1, 2, 3])).isSome = true ∧
    ((run [.view 0 2, .toString 1 0, .ret 1] (State.ofBuffer [1, 2, 3])).map
        (fun p => decide (p.1.region ≠ 0))) = some true := by
  decide

example : (run [.view 0 2, .toString 1 0, .ret 1] (State.ofBuffer [1, 2, 3])).map
      (fun p => (p.1, observe p.2.mem p.1, observe (scribble p.2.mem 0 (fun _ => [])) p.1))
    = some (⟨1, 0, 2⟩, some [1, 2], some [1, 2]) := by
  decide

example {r : Ref} {s' : State}
    (h : run [.view 0 2, .toString 1 0, .ret 1] (State.ofBuffer [1, 2, 3]) = some (r, s'))
    (f : List UInt8 → List UInt8) :
    observe (scribble s'.mem 0 f) r = observe s'.mem r :=
  decode_immune_clean (copyOfView_retClean 2) (ofBuffer_initial _ _) h f

end FinProto.Alias
