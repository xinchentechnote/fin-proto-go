/-
  The translations of the `Calc` bodies of the four checksum services compute the model's checksum functions (whose
  published definitions are proved in ChecksumProofs.lean) and leave the buffer as it was.
-/
import FinProto.Props.GoIRKit
import FinProto.Props.ChecksumProofs
namespace FinProto.GoIR
open FinProto

private theorem prog_34 : prog[34]? = some PinnedIR.fn34 := rfl
private theorem prog_35 : prog[35]? = some PinnedIR.fn35 := rfl
private theorem prog_36 : prog[36]? = some PinnedIR.fn36 := rfl
private theorem prog_37 : prog[37]? = some PinnedIR.fn37 := rfl

private theorem exec_seq (ext : Ext O) (callee) (lf : Nat) (targs) (a b : Stmt) (s : St O) :
    exec ext callee lf targs (.seq a b) s =
      match exec ext callee lf targs a s with
      | .norm s1 => exec ext callee lf targs b s1
      | r => r := exec.seq ext callee lf targs a b s
private theorem exec_ret (ext : Ext O) (callee) (lf : Nat) (targs) (es) (s : St O) :
    exec ext callee lf targs (.ret es) s =
      match evalArgs targs s es with
      | some vs => .ret vs s
      | none => .panic := exec.ret ext callee lf targs es s
private theorem exec_while (ext : Ext O) (callee) (lf : Nat) (targs) (c post body) (s : St O) :
    exec ext callee lf targs (.while c post body) s =
      whileLoop (fun s => evalE targs s c) (exec ext callee lf targs body) (exec ext callee lf targs post) lf s :=
  exec.while ext callee lf targs c post body s

/-- a `range` over bytes whose body updates slot 0 by `f` (the slot holds `enc a`) folds `f` over the bytes -/
theorem rangeLoop_fold {α : Type} (body : St O → Res O) (f : α → UInt8 → α) (enc : α → Int)
    (hbody : ∀ (s : St O) (a : α) (b : UInt8), s.loc 0 = .int (enc a) → s.loc 1 = .int (b.toNat : Int) →
      ∃ s', body s = .norm s' ∧ s'.buf = s.buf ∧ s'.loc 0 = .int (enc (f a b)))
    (bs : Bytes) : ∀ (s : St O) (a : α), s.loc 0 = .int (enc a) →
      ∃ s', rangeLoop 1 body (bs.map (fun b => V.int b.toNat)) s = .norm s' ∧ s'.buf = s.buf ∧
        s'.loc 0 = .int (enc (bs.foldl f a)) := by
  induction bs with
  | nil => intro s a h; exact ⟨s, rfl, rfl, h⟩
  | cons b bs ih =>
    intro s a h
    obtain ⟨s1, h1, h2, h3⟩ := hbody (s.set 1 (.int (b.toNat : Int))) a b (by simpa using h) (by simp)
    obtain ⟨s2, g1, g2, g3⟩ := ih s1 (f a b) h3
    refine ⟨s2, ?_, ?_, ?_⟩
    · simp only [List.map_cons, rangeLoop, h1, g1]
    · rw [g2, h2]; rfl
    · simpa using g3

/- CRC-16.  The constants are those of `PinnedIR.fn34`: 40961 = 0xA001 is the polynomial 0x8005 bit-reversed (the register
   is shifted right), 65536 = 2^16 is what `uint16(…)` reduces by. -/

private theorem wrap_u2 (n : Nat) : (Ty.u 2).wrap (n : Int) = ((n % 65536 : Nat) : Int) :=
  wrap_u_nat 2 n

private theorem aop_band1 (a : Nat) : aop .band (a : Int) 1 = some ((a &&& 1 : Nat) : Int) := by
  have h : (0 : Int) ≤ (a : Int) ∧ (0 : Int) ≤ 1 := ⟨Int.natCast_nonneg a, by decide⟩
  simp only [aop, if_pos h, Int.toNat_natCast]; rfl
private theorem aop_shr1 (a : Nat) : aop .shr (a : Int) 1 = some ((a >>> 1 : Nat) : Int) := by
  have h : (0 : Int) ≤ (a : Int) ∧ (0 : Int) ≤ 1 := ⟨Int.natCast_nonneg a, by decide⟩
  simp only [aop, if_pos h, Int.toNat_natCast]; rfl
private theorem aop_bxor (a b : Nat) : aop .bxor (a : Int) (b : Int) = some ((a ^^^ b : Nat) : Int) := by
  have h : (0 : Int) ≤ (a : Int) ∧ (0 : Int) ≤ (b : Int) := ⟨Int.natCast_nonneg a, Int.natCast_nonneg b⟩
  simp only [aop, if_pos h, Int.toNat_natCast]
private theorem aop_bxorA (a : Nat) : aop .bxor (a : Int) 40961 = some ((a ^^^ 40961 : Nat) : Int) :=
  aop_bxor a 40961
private theorem cop_ne0 (n : Nat) : cop .ne (n : Int) 0 = decide (n ≠ 0) := by
  simp only [cop]; congr 1; apply propext; omega

private theorem crc16Bit_toNat (c : UInt16) :
    (crc16Bit c).toNat =
      if (c.toNat &&& 1) % 65536 ≠ 0 then ((c.toNat >>> 1) % 65536 ^^^ 40961) % 65536 else (c.toNat >>> 1) % 65536 := by
  have hc := c.toNat_lt
  have hs : c.toNat >>> 1 < 65536 := by rw [Nat.shiftRight_eq_div_pow]; omega
  have hx : c.toNat >>> 1 ^^^ 40961 < 65536 := Nat.xor_lt_two_pow (n := 16) hs (by decide)
  have hand : c.toNat &&& 1 ≤ 1 := Nat.and_le_right
  have hsr : (c >>> 1).toNat = c.toNat >>> 1 := by rw [UInt16.toNat_shiftRight]; rfl
  have hxr : ((c >>> 1) ^^^ 0xA001).toNat = c.toNat >>> 1 ^^^ 40961 := by rw [UInt16.toNat_xor, hsr]; rfl
  have hand' : (c &&& 1).toNat = c.toNat &&& 1 := by rw [UInt16.toNat_and]; rfl
  rw [Nat.mod_eq_of_lt hs, Nat.mod_eq_of_lt hx, Nat.mod_eq_of_lt (by omega : c.toNat &&& 1 < 65536)]
  unfold crc16Bit
  by_cases h : c &&& 1 = 0
  · have h' : c.toNat &&& 1 = 0 := by rw [← hand', h]; rfl
    rw [if_neg (by rw [h]; decide), if_neg (by omega), hsr]
  · have h' : c.toNat &&& 1 ≠ 0 := by
      intro h0; apply h; apply UInt16.toNat_inj.mp; rw [hand', h0]; rfl
    rw [if_pos (bne_iff_ne.mpr h), if_pos h', hxr]

private theorem crc16_bit_body (ext : Ext O) (callee) (lf : Nat) (s : St O) (c : UInt16) (h0 : s.loc 0 = .int (c.toNat : Int)) :
    exec ext callee lf []
      (.ite (.cmp .ne (.arith .band (.ty (.u 2)) (.var 0) (.int 1)) (.int 0))
        (.set 0 (.arith .bxor (.ty (.u 2)) (.arith .shr (.ty (.u 2)) (.var 0) (.int 1)) (.int 40961)))
        (.set 0 (.arith .shr (.ty (.u 2)) (.var 0) (.int 1)))) s
      = .norm (s.set 0 (.int ((crc16Bit c).toNat : Int))) := by
  rw [crc16Bit_toNat]
  simp only [goir, h0, aop_band1, aop_shr1, aop_bxorA, wrap_u2, cop_ne0]
  by_cases h : (c.toNat &&& 1) % 65536 = 0
  · simp only [h, ne_eq, not_true_eq_false, decide_false, if_false]
  · simp only [h, ne_eq, not_false_eq_true, decide_true, if_true]

private def iterBit : Nat → UInt16 → UInt16
  | 0, c => c
  | n+1, c => iterBit n (crc16Bit c)

private theorem crc16_bit_loop (ext : Ext O) (callee) (lf : Nat) (n : Nat) : ∀ (fuel : Nat) (s : St O) (c : UInt16),
    n ≤ 8 → n + 1 ≤ fuel → s.loc 0 = .int (c.toNat : Int) → s.loc 2 = .int ((8 : Int) - (n : Int)) →
    ∃ s', whileLoop (fun s => evalE [] s (.cmp .lt (.var 2) (.int 8)))
        (exec ext callee lf []
          (.ite (.cmp .ne (.arith .band (.ty (.u 2)) (.var 0) (.int 1)) (.int 0))
            (.set 0 (.arith .bxor (.ty (.u 2)) (.arith .shr (.ty (.u 2)) (.var 0) (.int 1)) (.int 40961)))
            (.set 0 (.arith .shr (.ty (.u 2)) (.var 0) (.int 1)))))
        (exec ext callee lf [] (.set 2 (.arith .add (.ty .big) (.var 2) (.int 1)))) fuel s = .norm s' ∧
      s'.buf = s.buf ∧ s'.loc 0 = .int ((iterBit n c).toNat : Int) := by
  induction n with
  | zero =>
    intro fuel s c _ hf h0 h2
    obtain ⟨fuel, rfl⟩ := Nat.exists_eq_add_one.2 (Nat.zero_lt_of_lt hf)
    refine ⟨s, whileLoop_false ?_, rfl, h0⟩
    simp only [goir, h2, cop]
    rfl
  | succ n ih =>
    intro fuel s c hn hf h0 h2
    obtain ⟨fuel, rfl⟩ := Nat.exists_eq_add_one.2 (Nat.zero_lt_of_lt hf)
    have hlt : ((8 : Int) - ((n + 1 : Nat) : Int) < 8) := by omega
    have e : (8 : Int) - ((n + 1 : Nat) : Int) + 1 = 8 - (n : Int) := by omega
    obtain ⟨s', g1, g2, g3⟩ := ih fuel
      ((s.set 0 (.int ((crc16Bit c).toNat : Int))).set 2 (.int ((8 : Int) - (n : Int)))) (crc16Bit c)
      (by omega) (by omega) (by simp only [goir, Nat.reduceEqDiff]) (by simp only [goir])
    refine ⟨s', ?_, g2, g3⟩
    rw [← g1]
    refine whileLoop_true ?_ (crc16_bit_body ext callee lf s c h0) ?_
    · simp only [goir, h2, cop, hlt, decide_true]
    · simp only [goir, Nat.reduceEqDiff, h2, aop, e]

private theorem crc16_xor_arith (c : UInt16) (b : UInt8) :
    (c.toNat ^^^ b.toNat % 65536) % 65536 = (c ^^^ b.toUInt16).toNat := by
  have hc := c.toNat_lt
  have hb := b.toNat_lt
  have hb' : b.toNat < 2 ^ 16 := by omega
  have hx : c.toNat ^^^ b.toNat < 2 ^ 16 := Nat.xor_lt_two_pow hc hb'
  rw [UInt16.toNat_xor, UInt8.toNat_toUInt16, Nat.mod_eq_of_lt (by omega : b.toNat < 65536), Nat.mod_eq_of_lt (by omega)]

private theorem crc16_body (ext : Ext O) (callee) (lf : Nat) (hlf : 9 ≤ lf) (s : St O) (c : UInt16) (b : UInt8)
    (h0 : s.loc 0 = .int (c.toNat : Int)) (h1 : s.loc 1 = .int (b.toNat : Int)) :
    ∃ s', exec ext callee lf []
        (.seq (.set 0 (.arith .bxor (.ty (.u 2)) (.var 0) (.conv (.ty (.u 2)) (.var 1))))
        (.seq (.set 2 (.int 0))
        (.while (.cmp .lt (.var 2) (.int 8)) (.set 2 (.arith .add (.ty .big) (.var 2) (.int 1)))
        (.ite (.cmp .ne (.arith .band (.ty (.u 2)) (.var 0) (.int 1)) (.int 0))
        (.set 0 (.arith .bxor (.ty (.u 2)) (.arith .shr (.ty (.u 2)) (.var 0) (.int 1)) (.int 40961)))
        (.set 0 (.arith .shr (.ty (.u 2)) (.var 0) (.int 1))))))) s
        = .norm s' ∧ s'.buf = s.buf ∧ s'.loc 0 = .int (((crc16Byte c b).toNat : Nat) : Int) := by
  obtain ⟨s', g1, g2, g3⟩ := crc16_bit_loop ext callee lf 8 lf
    ((s.set 0 (.int ((c ^^^ b.toUInt16).toNat : Int))).set 2 (.int 0)) (c ^^^ b.toUInt16)
    (Nat.le_refl 8) hlf (by simp) (by simp)
  refine ⟨s', ?_, by rw [g2]; rfl, g3⟩
  rw [← g1]
  simp only [goir, exec_while, h0, h1, wrap_u2, aop_bxor, crc16_xor_arith]

theorem ir_crc16 (ext : Ext O) (bs : Bytes) (lf k : Nat) (hlf : 9 ≤ lf) (hk : 1 ≤ k) :
    runFn ext prog lf k ixCrc16 [] [] bs = .ret [.int (Int.ofNat (crc16Go bs).toNat)] bs := by
  rw [ixCrc16, runFn_pos ext prog_34 hk]
  simp only [goir, PinnedIR.fn34]
  obtain ⟨s', h1, h2, h3⟩ := rangeLoop_fold _ crc16Byte (fun a : UInt16 => (a.toNat : Int))
    (crc16_body ext (runFn ext prog lf (k - 1)) lf hlf) bs (({ buf := bs, loc := initLoc [] } : St O).set 0 (V.int 65535)) 0xFFFF rfl
  simp only [goir, h1, h3, h2]
  rfl

theorem ir_crc32 (ext : Ext O) (bs : Bytes) (lf k : Nat) (hk : 1 ≤ k) :
    runFn ext prog lf k ixCrc32 [] [] bs = .ret [.int (Int.ofNat (crc32Go bs).toNat)] bs := by
  rw [ixCrc32, runFn_pos ext prog_35 hk]
  simp only [goir, PinnedIR.fn35]
  rfl

private theorem sse_arith (m : Nat) (b : UInt8) :
    (Ty.u 4).wrap ((((Ty.u 4).wrap ((m : Int) + (Ty.u 4).wrap (b.toNat : Int))).toNat &&& (255 : Int).toNat : Nat) : Int)
      = (((m + b.toNat) % 256 : Nat) : Int) := by
  have h255 : Int.toNat 255 = 2 ^ 8 - 1 := rfl
  simp only [wrap_u_nat, ← Int.natCast_add, Int.toNat_natCast, h255, Nat.and_two_pow_sub_one_eq_mod]
  rw [Nat.mod_eq_of_lt (Nat.lt_trans b.toNat_lt (by decide)), Nat.mod_mod_of_dvd _ (by decide : 2 ^ 8 ∣ 256 ^ 4),
    Nat.mod_eq_of_lt (Nat.lt_trans (Nat.mod_lt _ (by decide)) (by decide))]

private theorem sse_body (ext : Ext O) (callee) (lf : Nat) (s : St O) (m : Nat) (b : UInt8)
    (h0 : s.loc 0 = .int (m : Int)) (h1 : s.loc 1 = .int (b.toNat : Int)) :
    ∃ s', exec ext callee lf []
        (.set 0 (.arith .band (.ty (.u 4)) (.arith .add (.ty (.u 4)) (.var 0) (.conv (.ty (.u 4)) (.var 1))) (.int 255))) s
        = .norm s' ∧ s'.buf = s.buf ∧ s'.loc 0 = .int (((m + b.toNat) % 256 : Nat) : Int) := by
  refine ⟨s.set 0 (.int (((m + b.toNat) % 256 : Nat) : Int)), ?_, rfl, by simp only [goir]⟩
  have hnn : (0 : Int) ≤ (Ty.u 4).wrap ((m : Int) + (Ty.u 4).wrap (b.toNat : Int)) ∧ (0 : Int) ≤ 255 := by
    rw [wrap_u_nat 4 b.toNat, ← Int.natCast_add, wrap_u_nat]
    omega
  simp only [goir, h0, h1, aop, if_pos hnn, sse_arith]

theorem ir_sse (ext : Ext O) (bs : Bytes) (lf k : Nat) (hk : 1 ≤ k) :
    runFn ext prog lf k ixSse [] [] bs = .ret [.int (Int.ofNat (sseGo bs).toNat)] bs := by
  rw [ixSse, runFn_pos ext prog_36 hk]
  simp only [goir, PinnedIR.fn36]
  obtain ⟨s', h1, h2, h3⟩ := rangeLoop_fold _ (fun m b => (m + b.toNat) % 256) (fun m : Nat => (m : Int))
    (sse_body ext (runFn ext prog lf (k - 1)) lf) bs (({ buf := bs, loc := initLoc [] } : St O).set 0 (V.int 0)) 0 rfl
  rw [foldl_add_mod bs 0 (by decide), Nat.zero_add, ← sseGo_eq] at h3
  simp only [goir, h1, h3, h2]
  rfl

private theorem szse_body (ext : Ext O) (callee) (lf : Nat) (s : St O) (m : Nat) (b : UInt8)
    (h0 : s.loc 0 = .int (m : Int)) (h1 : s.loc 1 = .int (b.toNat : Int)) :
    ∃ s', exec ext callee lf []
        (.set 0 (.arith .add (.ty (.u 4)) (.var 0) (.conv (.ty (.u 4)) (.var 1)))) s
        = .norm s' ∧ s'.buf = s.buf ∧ s'.loc 0 = .int (((m + b.toNat) % 256 ^ 4 : Nat) : Int) := by
  refine ⟨s.set 0 (.int (((m + b.toNat) % 256 ^ 4 : Nat) : Int)), ?_, rfl, by simp only [goir]⟩
  have hb : b.toNat % 256 ^ 4 = b.toNat := Nat.mod_eq_of_lt (Nat.lt_trans b.toNat_lt (by decide))
  simp only [goir, h0, h1, aop, wrap_u_nat 4 b.toNat, hb, ← Int.natCast_add, wrap_u_nat]

theorem ir_szse (ext : Ext O) (bs : Bytes) (lf k : Nat) (hk : 1 ≤ k) :
    runFn ext prog lf k ixSzse [] [] bs = .ret [.int (Int.ofNat (szseGo bs).toNat)] bs := by
  rw [ixSzse, runFn_pos ext prog_37 hk]
  simp only [goir, PinnedIR.fn37]
  obtain ⟨s', h1, h2, h3⟩ := rangeLoop_fold _ (fun m b => (m + b.toNat) % 256 ^ 4) (fun m : Nat => (m : Int))
    (szse_body ext (runFn ext prog lf (k - 1)) lf) bs (({ buf := bs, loc := initLoc [] } : St O).set 0 (V.int 0)) 0 rfl
  rw [foldl_add_mod bs 0 (by decide), Nat.zero_add] at h3
  -- `int32(checksum % 256)`: the remainder of the sum modulo 2^32 by 256 is the sum's, and fits both conversions
  have hne : ¬ ((256 : Int) = 0) := by decide
  have hlt : (bs.map (·.toNat)).sum % 256 < 256 := Nat.mod_lt _ (by decide)
  have hfin : (Ty.s 4).wrap ((Ty.u 4).wrap (Int.tmod (((bs.map (·.toNat)).sum % 256 ^ 4 : Nat) : Int) 256))
      = (((szseGo bs).toNat : Nat) : Int) := by
    rw [szseGo_eq, Int.tmod_eq_emod_of_nonneg (Int.natCast_nonneg _), show (256 : Int) = ((256 : Nat) : Int) from rfl,
      ← Int.natCast_emod,
      Nat.mod_mod_of_dvd _ (by decide : 256 ∣ 256 ^ 4), wrap_u_of_lt (Nat.lt_trans hlt (by decide)),
      wrap_s_of_lt (Nat.lt_trans (Nat.mul_lt_mul_of_pos_left hlt (by decide)) (by decide))]
  simp only [goir, h1, h3, aop, if_neg hne, h2, hfin]
  rfl

end FinProto.GoIR
