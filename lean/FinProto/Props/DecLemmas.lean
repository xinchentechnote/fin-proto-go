/-
  The decoder of the schema interpreter (properties C07, C09, C11 core, C12), for every `env`, fuel, type and byte
  string.  Each property is a predicate on readers with one closure lemma per combinator: `Obl` here, `NoPanic` of
  `Outcome.lean`.  `Props.PinnedFacts` is imported only for the examples.
-/
import FinProto.Props.SideConds
import FinProto.Props.PinnedFacts
import FinProto.Props.ValEq
import FinProto.Props.PrimLemmas
namespace FinProto

/-- C07 / C11 core: a successful read consumes a prefix `c` of its input and is oblivious to what follows `c` -/
def Obl (rd : R α) : Prop :=
  ∀ b v r, rd b = .ok (v, r) → ∃ c, b = c ++ r ∧ ∀ r', rd (c ++ r') = .ok (v, r')

theorem obl_pureR (a : α) : Obl (pureR a) := by
  intro b v r h
  cases h
  exact ⟨[], rfl, Reads.pure a⟩

theorem obl_failR : Obl (failR : R α) :=
  fun _ _ _ h => nomatch h

theorem obl_panicR : Obl (panicR : R α) :=
  fun _ _ _ h => nomatch h

theorem obl_bindR {rd : R α} {f : α → R β} (h1 : Obl rd) (h2 : ∀ a, Obl (f a)) :
    Obl (bindR rd f) := by
  intro b v r h
  obtain ⟨a, b', ha, hf⟩ := bindR_eq_ok.mp h
  obtain ⟨c1, rfl, hc1⟩ := h1 _ _ _ ha
  obtain ⟨c2, rfl, hc2⟩ := h2 a _ _ _ hf
  exact ⟨c1 ++ c2, (List.append_assoc _ _ _).symm, Reads.bind hc1 hc2⟩

theorem obl_mapR {rd : R α} (f : α → β) (h : Obl rd) : Obl (mapR f rd) :=
  obl_bindR h (fun a => obl_pureR (f a))

theorem obl_takeN (n : Nat) : Obl (takeN n) := by
  intro b v r h
  obtain ⟨rfl, rfl⟩ := takeN_eq_ok_append.mp h
  exact ⟨v, rfl, Reads.takeN rfl⟩

theorem obl_decRep {elem : R α} (h : Obl elem) : ∀ n, Obl (decRep elem n)
  | 0 => obl_pureR _
  | n+1 => obl_bindR h (fun _ => obl_mapR _ (obl_decRep h n))

theorem obl_optR {o : Option α} {k : α → R β} (h : ∀ a, Obl (k a)) : Obl (optR o k) := by
  cases o with
  | none => exact obl_failR
  | some a => exact h a

theorem obl_lenGuard {k : R α} (n : Nat) (h : Obl k) : Obl (lenGuard n k) := by
  unfold lenGuard
  split
  · exact h
  · exact obl_panicR

theorem obl_readScalar (w : Nat) (e : Endian) : Obl (readScalar w e) :=
  obl_mapR _ (obl_takeN w)

theorem obl_readFixed (n : Nat) (pad : UInt8) (left : Bool) : Obl (readFixed n pad left) :=
  obl_mapR _ (obl_takeN n)

/-- the prefixed reader of `PrimLemmas`: `readVstr` and `readList` -/
theorem obl_prefixed {k : Nat → R α} (w : Nat) (e : Endian) (h : ∀ n, Obl (k n)) :
    Obl (bindR (readScalar w e) fun n => lenGuard n (k n)) :=
  obl_bindR (obl_readScalar w e) fun n => obl_lenGuard n (h n)

theorem obl_readVstr (pw : Nat) (e : Endian) : Obl (readVstr pw e) :=
  obl_prefixed pw e obl_takeN

theorem obl_readList {elem : R α} (cw : Nat) (e : Endian) (h : Obl elem) :
    Obl (readList cw e elem) :=
  obl_prefixed cw e (obl_decRep h)

theorem obl_decOp (env : Env) {dT : Nat → R Val} (h : ∀ ty, Obl (dT ty)) (acc : List Val) (op : Op) :
    Obl (decOp env dT acc op) := by
  cases op with
  | scalar w e => exact obl_mapR _ (obl_readScalar w e)
  | fixed n pad left => exact obl_mapR _ (obl_readFixed n _ left)
  | vstr pw e => exact obl_mapR _ (obl_readVstr pw e)
  | nums cw w e => exact obl_mapR _ (obl_readList cw e (obl_readScalar w e))
  | fixeds cw n pad left e => exact obl_mapR _ (obl_readList cw e (obl_readFixed n _ left))
  | vstrs cw pw e => exact obl_mapR _ (obl_readList cw e (obl_readVstr pw e))
  | nested ty g => exact h ty
  | objs cw ty e => exact obl_mapR _ (obl_readList cw e (h ty))
  | union key tbl g => exact obl_optR h
  | «opaque» => exact obl_failR

theorem obl_decSeq {step : List Val → Op → R Val} (h : ∀ acc op, Obl (step acc op)) :
    ∀ ops acc, Obl (decSeq step ops acc)
  | [], acc => obl_pureR acc
  | op :: ops, acc => obl_bindR (h acc op) (fun v => obl_decSeq h ops (acc ++ [v]))

theorem obl_decTy (env : Env) : ∀ f ty, Obl (decTy env f ty)
  | 0, _ => obl_failR
  | f+1, ty => by
    rw [decTy]
    exact obl_optR (fun td => obl_mapR _ (obl_decSeq (fun acc op => obl_decOp env (obl_decTy env f) acc op) _ _))

theorem obl_decode (env : Env) (ty : Nat) : Obl (decode env ty) := obl_decTy env env.fuel ty

theorem dec_consumes_prefix {env : Env} {f ty : Nat} {b r : Bytes} {v : Val}
    (h : decTy env f ty b = .ok (v, r)) : ∃ c, b = c ++ r := by
  obtain ⟨c, hc, _⟩ := obl_decTy env f ty b v r h
  exact ⟨c, hc⟩

theorem dec_extend {env : Env} {f ty : Nat} {c r : Bytes} {v : Val}
    (h : decTy env f ty (c ++ r) = .ok (v, r)) : ∀ r', decTy env f ty (c ++ r') = .ok (v, r') := by
  obtain ⟨c', hc, hext⟩ := obl_decTy env f ty _ v r h
  obtain rfl := List.append_cancel_right hc
  exact hext

theorem Obl.truncated_not_ok {rd : R α} (hO : Obl rd) {w : Bytes} {v : α} (h : rd w = .ok (v, []))
    {k : Nat} (hk : k < w.length) : ∀ v' r', rd (w.take k) ≠ .ok (v', r') := by
  intro v' r' h'
  obtain ⟨c, hc, hext⟩ := hO _ _ _ h'
  -- followed by what was cut off, the truncated run is a run on `w`, and that leaves nothing
  have h2 := hext (r' ++ w.drop k)
  rw [← List.append_assoc, ← hc, List.take_append_drop, h] at h2
  simp only [Outcome.ok.injEq, Prod.mk.injEq] at h2
  exact absurd (List.drop_eq_nil_iff.mp (List.append_eq_nil_iff.mp h2.2.symm).2) (Nat.not_le_of_lt hk)

/-- core of C11: no proper prefix of a wire message decodes successfully -/
theorem dec_truncated_not_ok {env : Env} {f ty : Nat} {w : Bytes} {v : Val}
    (h : decTy env f ty w = .ok (v, [])) {k : Nat} (hk : k < w.length) :
    ∀ v' r', decTy env f ty (w.take k) ≠ .ok (v', r') :=
  (obl_decTy env f ty).truncated_not_ok h hk

/-! ### C09: decoding never panics -/

theorem np_decRep {elem : R α} (h : NoPanic elem) : ∀ n, NoPanic (decRep elem n)
  | 0 => np_pureR _
  | n+1 => np_bindR h (fun _ => np_mapR _ (np_decRep h n))

theorem np_optR {o : Option α} {k : α → R β} (h : ∀ a, NoPanic (k a)) : NoPanic (optR o k) := by
  cases o with
  | none => exact np_failR
  | some a => exact h a

theorem np_lenGuard {k : R α} {n : Nat} (hn : n < 2 ^ 63) (h : NoPanic k) :
    NoPanic (lenGuard n k) := by
  rw [lenGuard_pass k hn]
  exact h

theorem np_readScalar (w : Nat) (e : Endian) : NoPanic (readScalar w e) :=
  np_mapR _ (np_takeN w)

theorem np_readFixed (n : Nat) (pad : UInt8) (left : Bool) : NoPanic (readFixed n pad left) :=
  np_mapR _ (np_takeN n)

/-- a prefix of at most 7 bytes, once read, passes the sign guard; a wider one may panic -/
theorem np_prefixed {k : Nat → R α} {w : Nat} (hw : w ≤ 7) (e : Endian) (h : ∀ n, NoPanic (k n)) :
    NoPanic (bindR (readScalar w e) fun n => lenGuard n (k n)) :=
  np_bindR_of_ok (np_readScalar w e) fun _ _ _ hr =>
    np_lenGuard (lt_two_pow_63 hw (writeScalar_readScalar hr).2) (h _)

theorem np_readVstr {pw : Nat} (hpw : pw ≤ 7) (e : Endian) : NoPanic (readVstr pw e) :=
  np_prefixed hpw e np_takeN

theorem np_readList {elem : R α} {cw : Nat} (hcw : cw ≤ 7) (e : Endian) (h : NoPanic elem) :
    NoPanic (readList cw e elem) :=
  np_prefixed hcw e (np_decRep h)

theorem np_decOp (env : Env) {dT : Nat → R Val} (h : ∀ ty, NoPanic (dT ty)) (acc : List Val)
    {op : Op} (hop : op.widthsOK = true) : NoPanic (decOp env dT acc op) := by
  cases op with
  | scalar w e => exact np_mapR _ (np_readScalar w e)
  | fixed n pad left => exact np_mapR _ (np_readFixed n _ left)
  | vstr pw e => exact np_mapR _ (np_readVstr (width124_le_seven hop) e)
  | nums cw w e =>
    simp only [Op.widthsOK, Bool.and_eq_true] at hop
    exact np_mapR _ (np_readList (width124_le_seven hop.1) e (np_readScalar w e))
  | fixeds cw n pad left e =>
    simp only [Op.widthsOK, Bool.and_eq_true] at hop
    exact np_mapR _ (np_readList (width124_le_seven hop.1.1) e (np_readFixed n _ left))
  | vstrs cw pw e =>
    simp only [Op.widthsOK, Bool.and_eq_true] at hop
    exact np_mapR _ (np_readList (width124_le_seven hop.1) e (np_readVstr (width124_le_seven hop.2) e))
  | nested ty g => exact h ty
  | objs cw ty e => exact np_mapR _ (np_readList (width124_le_seven hop) e (h ty))
  | union key tbl g => exact np_optR h
  | «opaque» => exact np_failR

theorem np_decSeq {step : List Val → Op → R Val} :
    ∀ (ops : List Op) (acc : List Val), (∀ acc, ∀ op ∈ ops, NoPanic (step acc op)) →
      NoPanic (decSeq step ops acc)
  | [], acc, _ => np_pureR acc
  | op :: ops, acc, h =>
    np_bindR (h acc op (List.mem_cons_self ..))
      (fun v => np_decSeq ops (acc ++ [v]) (fun acc' op' hm => h acc' op' (List.mem_cons_of_mem _ hm)))

theorem dec_no_panic {env : Env} (hw : env.widthsOK = true) : ∀ f ty, NoPanic (decTy env f ty)
  | 0, _ => np_failR
  | f+1, ty => by
    rw [decTy]
    cases htd : env.types[ty]? with
    | none => exact np_failR
    | some td =>
      exact np_mapR _ (np_decSeq _ _ (fun acc op hop =>
        np_decOp env (dec_no_panic hw f) acc ((Env.widthsOK_at hw htd).1 op hop)))

theorem decode_no_panic {env : Env} (hw : env.widthsOK = true) (ty : Nat) : NoPanic (decode env ty) :=
  dec_no_panic hw env.fuel ty

theorem dec_ok_or_err {env : Env} (hw : env.widthsOK = true) (f ty : Nat) (b : Bytes) :
    (∃ v r, decTy env f ty b = .ok (v, r)) ∨ decTy env f ty b = .err := by
  cases h : decTy env f ty b with
  | ok p => exact .inl ⟨p.1, p.2, rfl⟩
  | err => exact .inr rfl
  | panic => exact absurd h (dec_no_panic hw f ty b)

theorem decSeq_append (step : List Val → Op → R Val) (ops1 ops2 : List Op) (acc : List Val) :
    decSeq step (ops1 ++ ops2) acc = bindR (decSeq step ops1 acc) (fun acc' => decSeq step ops2 acc') := by
  induction ops1 generalizing acc with
  | nil => rfl
  | cons op ops1 ih =>
    funext b
    simp only [List.cons_append, decSeq, bindR]
    cases step acc op b with
    | ok p =>
      simp only [Outcome.bind_ok]
      rw [ih]
      rfl
    | err => rfl
    | panic => rfl

theorem decSeq_length {step : List Val → Op → R Val} (ops : List Op) (acc : List Val) (b : Bytes) (l : List Val)
    (r : Bytes) (h : decSeq step ops acc b = .ok (l, r)) : l.length = acc.length + ops.length := by
  induction ops generalizing acc b with
  | nil =>
    cases h
    rfl
  | cons op ops ih =>
    obtain ⟨v, b', _, h2⟩ := bindR_eq_ok.mp h
    rw [ih _ _ h2]
    simp only [List.length_append, List.length_cons, List.length_nil]
    omega

theorem decTy_succ_eq_ok {env : Env} {f ty : Nat} {b r : Bytes} {v : Val} :
    decTy env (f + 1) ty b = .ok (v, r) ↔
      ∃ td fs, env.types[ty]? = some td ∧ decSeq (decOp env (decTy env f)) td.dec [] b = .ok (fs, r) ∧
        v = .msg ty fs := by
  rw [decTy, optR_eq_ok]
  simp only [mapR_eq_ok]
  exact ⟨fun ⟨td, htd, fs, h, hv⟩ => ⟨td, fs, htd, h, hv.symm⟩,
    fun ⟨td, fs, htd, h, hv⟩ => ⟨td, htd, fs, h, hv.symm⟩⟩

/-! ### C12: discriminators -/

theorem decTy_ok_msg {env : Env} {f ty : Nat} {b r : Bytes} {v : Val}
    (h : decTy env f ty b = .ok (v, r)) :
    ∃ fs, v = .msg ty fs ∧ ∀ td, env.types[ty]? = some td → fs.length = td.dec.length := by
  cases f with
  | zero => cases h
  | succ f =>
    obtain ⟨td, fs, htd, hfs, rfl⟩ := decTy_succ_eq_ok.mp h
    refine ⟨fs, rfl, fun td' htd' => ?_⟩
    cases htd.symm.trans htd'
    simpa using decSeq_length _ _ _ _ _ hfs

theorem dec_union_run {env : Env} {f key tbl : Nat} {g : Guard} {acc : List Val} {b r : Bytes} {v : Val}
    (h : decOp env (decTy env f) acc (.union key tbl g) b = .ok (v, r)) :
    ∃ ty fs, unionTy env key tbl acc = some ty ∧ v = .msg ty fs ∧ decTy env f ty b = .ok (v, r) := by
  obtain ⟨ty, hu, h⟩ := optR_eq_ok.mp h
  obtain ⟨fs, rfl, _⟩ := decTy_ok_msg h
  exact ⟨ty, fs, hu, rfl, h⟩

/-- the union decoder builds exactly the body type the table assigns to the key read earlier -/
theorem dec_union_ok {env : Env} {f key tbl : Nat} {g : Guard} {acc : List Val} {b r : Bytes} {v : Val}
    (h : decOp env (decTy env f) acc (.union key tbl g) b = .ok (v, r)) :
    ∃ ty fs, unionTy env key tbl acc = some ty ∧ v = .msg ty fs :=
  let ⟨ty, fs, hu, hv, _⟩ := dec_union_run h
  ⟨ty, fs, hu, hv⟩

/-- an unregistered key value is an error: never a guess, never a panic -/
theorem dec_union_unknown {env : Env} {f key tbl : Nat} {g : Guard} {acc : List Val}
    (h : unionTy env key tbl acc = none) :
    ∀ b, decOp env (decTy env f) acc (.union key tbl g) b = .err := by
  intro b
  simp only [decOp, h, optR_none, failR_apply]

theorem dec_union_unknown_key {env : Env} {f key tbl : Nat} {g : Guard} {acc : List Val} {kv : Val}
    {k : Key} (hkv : acc[key]? = some kv) (hk : keyOf kv = some k) (hl : env.lookup tbl k = none) :
    ∀ b, decOp env (decTy env f) acc (.union key tbl g) b = .err :=
  dec_union_unknown (by simp only [unionTy, hkv, Option.bind_some, hk, hl])

theorem dec_union_nokey {env : Env} {f key tbl : Nat} {g : Guard} {acc : List Val}
    (hkv : acc[key]?.bind keyOf = none) :
    ∀ b, decOp env (decTy env f) acc (.union key tbl g) b = .err :=
  dec_union_unknown (by simp only [unionTy, hkv, Option.bind_none])

/-- encoder side: an absent body is materialised from the SAME table with the SAME key -/
theorem enc_union_nil_mat {env : Env} {f key tbl : Nat} {all : List Val} (pre : Bytes) :
    encOp env (encTy env f) (zeroTy env f) all (.union key tbl .mat) .nil pre =
      match unionTy env key tbl all with
      | none => .err
      | some ty => encTy env f ty (zeroTy env f ty) pre := by
  simp only [encOp]
  cases unionTy env key tbl all <;> rfl

theorem enc_union_nil_skip {env : Env} {f key tbl : Nat} {all : List Val} (pre : Bytes) :
    encOp env (encTy env f) (zeroTy env f) all (.union key tbl .skip) .nil pre = .ok (.nil, pre) := by
  simp only [encOp]
  cases unionTy env key tbl all <;> rfl

theorem enc_union_nil {env : Env} {f key tbl : Nat} {all : List Val} (pre : Bytes) :
    (unionTy env key tbl all = none →
      encOp env (encTy env f) (zeroTy env f) all (.union key tbl .mat) .nil pre = .err) ∧
    (∀ ty, unionTy env key tbl all = some ty →
      encOp env (encTy env f) (zeroTy env f) all (.union key tbl .mat) .nil pre =
        encTy env f ty (zeroTy env f ty) pre) ∧
    encOp env (encTy env f) (zeroTy env f) all (.union key tbl .skip) .nil pre = .ok (.nil, pre) :=
  ⟨fun h => by rw [enc_union_nil_mat, h], fun _ h => by rw [enc_union_nil_mat, h], enc_union_nil_skip pre⟩

/-- a Go map filled by successive registrations: the last registration of a key wins -/
theorem lookup_last_wins (k : Key) (ty : Nat) (t : List (Key × Nat)) :
    lookupKey k ((t ++ [(k, ty)]).reverse) = some ty := by
  rw [List.reverse_append, List.reverse_singleton, List.singleton_append, lookupKey, if_pos rfl]

theorem lookup_last_other {k k' : Key} (hk : k' ≠ k) (ty : Nat) (t : List (Key × Nat)) :
    lookupKey k' ((t ++ [(k, ty)]).reverse) = lookupKey k' t.reverse := by
  rw [List.reverse_append, List.reverse_singleton, List.singleton_append, lookupKey, if_neg fun h => hk h.symm]

theorem Env.lookup_last_wins {env : Env} {tbl : Nat} {t : List (Key × Nat)} {k : Key} {ty : Nat}
    (h : env.tables[tbl]? = some (t ++ [(k, ty)])) : env.lookup tbl k = some ty := by
  simp only [Env.lookup, h]
  exact FinProto.lookup_last_wins k ty t

theorem Env.lookup_last_other {env : Env} {tbl : Nat} {t : List (Key × Nat)} {k k' : Key} {ty : Nat}
    (h : env.tables[tbl]? = some (t ++ [(k, ty)])) (hk : k' ≠ k) :
    env.lookup tbl k' = lookupKey k' t.reverse := by
  simp only [Env.lookup, h]
  exact FinProto.lookup_last_other hk ty t

/-- C07, streams: successive `Decode` calls, one per listed type, on the same buffer -/
def decMany (env : Env) (f : Nat) : List Nat → R (List Val)
  | [] => pureR []
  | ty :: tys => bindR (decTy env f ty) (fun v => mapR (fun l => v :: l) (decMany env f tys))

theorem obl_decMany (env : Env) (f : Nat) : ∀ tys, Obl (decMany env f tys)
  | [] => obl_pureR _
  | ty :: tys => obl_bindR (obl_decTy env f ty) (fun _ => obl_mapR _ (obl_decMany env f tys))

theorem np_decMany {env : Env} (hw : env.widthsOK = true) (f : Nat) : ∀ tys, NoPanic (decMany env f tys)
  | [] => np_pureR _
  | ty :: tys => np_bindR (dec_no_panic hw f ty) (fun _ => np_mapR _ (np_decMany hw f tys))

theorem dec_stream_rest {env : Env} {f : Nat} (ms : List (Nat × Val × Bytes))
    (h : ∀ m ∈ ms, Reads (decTy env f m.1) m.2.2 m.2.1) :
    Reads (decMany env f (ms.map (·.1))) (ms.map (·.2.2)).flatten (ms.map (·.2.1)) := by
  induction ms with
  | nil => exact Reads.pure []
  | cons m ms ih =>
    exact (h m (List.mem_cons_self ..)).bind ((ih fun m' hm' => h m' (List.mem_cons_of_mem _ hm')).map rfl)

theorem dec_stream {env : Env} {f : Nat} (ms : List (Nat × Val × Bytes))
    (h : ∀ m ∈ ms, ∀ rest, decTy env f m.1 (m.2.2 ++ rest) = .ok (m.2.1, rest)) :
    decMany env f (ms.map (·.1)) (ms.map (·.2.2)).flatten = .ok (ms.map (·.2.1), []) :=
  (dec_stream_rest ms h).exact

/-- thanks to obliviousness it is enough that every message decodes exactly on its own -/
theorem dec_stream_of_exact {env : Env} {f : Nat} (ms : List (Nat × Val × Bytes))
    (h : ∀ m ∈ ms, decTy env f m.1 m.2.2 = .ok (m.2.1, [])) :
    decMany env f (ms.map (·.1)) (ms.map (·.2.2)).flatten = .ok (ms.map (·.2.1), []) :=
  dec_stream ms (fun m hm rest => by
    have h0 := h m hm
    rw [← List.append_nil m.2.2] at h0
    exact dec_extend h0 rest)

section Examples

/-- an sse.SseBinary frame (type 96) holding a Heartbeat (type 88) -/
private def exW : Bytes := [0,0,0,33, 0,0,0,0,0,0,0,7, 0,0,0,0, 0,0,0,40]
private def exV : Val := .msg 96 [.num 33, .num 7, .num 0, .msg 88 [], .num 40]

private theorem exDec1 : decTy Pinned.env 3 96 (exW ++ [0xEE]) = .ok (exV, [0xEE]) :=
  Outcome.ok_of_eqb (by decide +kernel)
private theorem exDec0 : decTy Pinned.env 3 96 exW = .ok (exV, []) :=
  Outcome.ok_of_eqb (by decide +kernel)

-- C07 / C11
example : ∃ c, exW ++ [0xEE] = c ++ [0xEE] :=
  dec_consumes_prefix (env := Pinned.env) (f := 3) (ty := 96) (v := exV) exDec1
example : ∀ r', decTy Pinned.env 3 96 (exW ++ r') = .ok (exV, r') :=
  dec_extend (r := [0xEE]) exDec1
example : ∀ v' r', decTy Pinned.env 3 96 (exW.take 19) ≠ .ok (v', r') :=
  dec_truncated_not_ok exDec0 (by decide)

-- a repeating group (bse.PlatformInfo = 30, elements bse.NoPartitions = 28) with two entries
private def exP : Bytes :=
  [9,0, 2,0, 7,0,0,0, 65,32,32,32,32,32,32,32,32,32,32,32,32,32,32,32,32,32,32,32,
             8,0,0,0, 66,67,32,32,32,32,32,32,32,32,32,32,32,32,32,32,32,32,32,32]
private def exPV : Val :=
  .msg 30 [.num 9, .msgs [.msg 28 [.num 7, .str [65]], .msg 28 [.num 8, .str [66, 67]]]]
private theorem exDecP : decTy Pinned.env 3 30 exP = .ok (exPV, []) :=
  Outcome.ok_of_eqb (by decide +kernel)
example : ∀ r', decTy Pinned.env 3 30 (exP ++ r') = .ok (exPV, r') :=
  dec_extend (r := []) (by rw [List.append_nil]; exact exDecP)
example : ∀ v' r', decTy Pinned.env 3 30 (exP.take 51) ≠ .ok (v', r') :=
  dec_truncated_not_ok exDecP (by decide)

-- C09
example : Pinned.env.widthsOK = true := Pinned.widthsOK
example : ∀ f ty, NoPanic (decTy Pinned.env f ty) := dec_no_panic Pinned.widthsOK
-- the panic in the model is real: an 8-byte count prefix ≥ 2^63 panics
example : readList 8 .be (readScalar 1 .be) [0x80,0,0,0,0,0,0,0] = .panic := by decide +kernel

-- C12: the frame's union op reads key field 0 (= 33) in table 13 and builds a Heartbeat
example : unionTy Pinned.env 0 13 [.num 33, .num 7, .num 0] = some 88 := by decide +kernel
example : decOp Pinned.env (decTy Pinned.env 2) [.num 33, .num 7, .num 0] (.union 0 13 .mat) [0xEE] =
    .ok (.msg 88 [], [0xEE]) :=
  Outcome.ok_of_eqb (by decide +kernel)
-- key 34 is not registered: error for every input
example : unionTy Pinned.env 0 13 [.num 34, .num 7, .num 0] = none := by decide +kernel
example : ∀ b, decOp Pinned.env (decTy Pinned.env 2) [.num 34, .num 7, .num 0] (.union 0 13 .mat) b = .err :=
  dec_union_unknown (by decide +kernel)
example : decTy Pinned.env 3 96 [0,0,0,34, 0,0,0,0,0,0,0,7, 0,0,0,0, 0,0,0,40] = .err := rfl
example : lookupKey (Key.n 33) (([(Key.n 33, 1), (Key.n 40, 2)] ++ [(Key.n 33, 88)]).reverse) = some 88 :=
  lookup_last_wins _ _ _

example : ∃ fs, exV = .msg 96 fs ∧ ∀ td, Pinned.env.types[96]? = some td → fs.length = td.dec.length :=
  decTy_ok_msg exDec0
example : ∃ ty fs, unionTy Pinned.env 0 13 [.num 33, .num 7, .num 0] = some ty ∧ Val.msg 88 [] = .msg ty fs :=
  dec_union_ok (f := 2) (g := .mat) (b := [0xEE]) (r := [0xEE]) rfl
example (pre : Bytes) :
    encOp Pinned.env (encTy Pinned.env 2) (zeroTy Pinned.env 2) [.num 33, .num 7, .num 0] (.union 0 13 .mat) .nil pre =
      encTy Pinned.env 2 88 (zeroTy Pinned.env 2 88) pre :=
  (enc_union_nil pre).2.1 _ (by decide +kernel)
example (pre : Bytes) :
    encOp Pinned.env (encTy Pinned.env 2) (zeroTy Pinned.env 2) [.num 34, .num 7, .num 0] (.union 0 13 .mat) .nil pre = .err :=
  (enc_union_nil pre).1 (by decide +kernel)

example (b : Bytes) : (∃ v r, decTy Pinned.env 3 96 b = .ok (v, r)) ∨ decTy Pinned.env 3 96 b = .err :=
  dec_ok_or_err Pinned.widthsOK 3 96 b

-- C07
example : decMany Pinned.env 3 [96, 30, 96] (exW ++ (exP ++ exW)) = .ok ([exV, exPV, exV], []) := by
  have := dec_stream_of_exact (env := Pinned.env) (f := 3) [(96, exV, exW), (30, exPV, exP), (96, exV, exW)] (by
    intro m hm
    simp only [List.mem_cons, List.not_mem_nil, or_false] at hm
    rcases hm with rfl | rfl | rfl
    · exact exDec0
    · exact exDecP
    · exact exDec0)
  simpa using this

end Examples

end FinProto
