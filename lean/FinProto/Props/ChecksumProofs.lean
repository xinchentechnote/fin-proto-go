/-
  C14: the four checksum algorithms of codec/checksum.go (modelled in `FinProto.Checksum`) equal
  their published definitions.  The CRC reference is an independent parametrised CRC in the
  Rocksoft / "CRC catalogue" style, defined here.
-/
import FinProto.Checksum
namespace FinProto

/-! ## SSE masks the running sum to 8 bits at every step, SZSE keeps a wrapping 32-bit sum and
  reduces it mod 256 at the end: each accumulator is the byte sum kept reduced mod `m` (256, 2^32) -/

theorem foldl_add_mod {m : Nat} (bs : Bytes) (n : Nat) (h : n < m) :
    bs.foldl (fun n b => (n + b.toNat) % m) n = (n + (bs.map (·.toNat)).sum) % m := by
  induction bs generalizing n with
  | nil => simp only [List.foldl_nil, List.map_nil, List.sum_nil, Nat.add_zero, Nat.mod_eq_of_lt h]
  | cons b bs ih =>
    simp only [List.foldl_cons, List.map_cons, List.sum_cons]
    rw [ih _ (Nat.mod_lt _ (by omega)), Nat.mod_add_mod, Nat.add_assoc]

theorem sseGo_eq (bs : Bytes) : (sseGo bs).toNat = (bs.map (·.toNat)).sum % 256 := by
  have h := List.foldl_hom UInt32.toNat (g₂ := fun n b => (n + b.toNat) % 256) (l := bs) (init := 0)
    (g₁ := fun acc b => (acc + b.toUInt32) &&& 0xFF) (fun x y => by
      rw [UInt32.toNat_and, UInt32.toNat_add, UInt8.toNat_toUInt32]
      exact (Nat.mod_mod_of_dvd _ (by decide : 256 ∣ 2 ^ 32)).symm.trans
        (Nat.and_two_pow_sub_one_eq_mod _ 8).symm)
  rw [sseGo, ← h, UInt32.toNat_zero, foldl_add_mod bs 0 (by decide), Nat.zero_add]

theorem sseGo_lt (bs : Bytes) : (sseGo bs).toNat < 256 := by
  rw [sseGo_eq]; exact Nat.mod_lt _ (by decide)

example : (sseGo [0xFF, 0xFF, 0x03]).toNat = (([0xFF, 0xFF, 0x03] : Bytes).map (·.toNat)).sum % 256 ∧
    (sseGo [0xFF, 0xFF, 0x03]).toNat = 1 := by decide

theorem szseAcc_eq (bs : Bytes) : (szseAcc bs).toNat = (bs.map (·.toNat)).sum % 2 ^ 32 := by
  have h := List.foldl_hom UInt32.toNat (g₂ := fun n b => (n + b.toNat) % 2 ^ 32) (l := bs) (init := 0)
    (g₁ := fun acc b => acc + b.toUInt32) (fun x y => by rw [UInt32.toNat_add, UInt8.toNat_toUInt32])
  rw [szseAcc, ← h, UInt32.toNat_zero, foldl_add_mod bs 0 (by decide), Nat.zero_add]

theorem szseGo_eq (bs : Bytes) : (szseGo bs).toNat = (bs.map (·.toNat)).sum % 256 := by
  rw [szseGo, UInt32.toNat_mod, szseAcc_eq]
  exact Nat.mod_mod_of_dvd _ (by decide : 256 ∣ 2 ^ 32)

theorem szseGo_lt (bs : Bytes) : (szseGo bs).toNat < 256 := by
  rw [szseGo_eq]; exact Nat.mod_lt _ (by decide)

example : (szseGo [0xFF, 0xFF, 0x03]).toNat = (([0xFF, 0xFF, 0x03] : Bytes).map (·.toNat)).sum % 256 ∧
    (szseGo [0xFF, 0xFF, 0x03]).toNat = 1 := by decide

/-! ## reference definition: parametrised CRC, Rocksoft model

  MSB-first (non-reflected) shift register of width `w`.  `refin` bit-reverses every input byte
  before it is fed in, `refout` bit-reverses the final register, `xorout` is xored in last.
  This is the textbook "simple" bitwise algorithm of Williams' "A painless guide to CRC error
  detection algorithms" and of the CRC catalogue; nothing here mentions the reversed
  polynomials 0xA001 / 0xEDB88320 or right shifts.
-/

structure CrcParams (w : Nat) where
  poly : BitVec w
  init : BitVec w
  xorout : BitVec w
  refin : Bool
  refout : Bool

/-- one shift of the MSB-first register: shift left, and subtract the polynomial if a 1 fell out -/
def crcShift {w : Nat} (poly r : BitVec w) : BitVec w :=
  if r.msb then (r <<< 1) ^^^ poly else r <<< 1

/-- feed one byte: xor it into the top 8 bits of the register, then shift 8 times -/
def crcFeed {w : Nat} (p : CrcParams w) (r : BitVec w) (b : UInt8) : BitVec w :=
  let byte : BitVec 8 := if p.refin then b.toBitVec.reverse else b.toBitVec
  let r := r ^^^ (byte.zeroExtend w <<< (w - 8))
  let s := crcShift p.poly
  s (s (s (s (s (s (s (s r)))))))

def crcRef {w : Nat} (p : CrcParams w) (bs : Bytes) : BitVec w :=
  let r := bs.foldl (crcFeed p) p.init
  (if p.refout then r.reverse else r) ^^^ p.xorout

/-- CRC-16/MODBUS -/
def crc16Modbus : CrcParams 16 := ⟨0x8005#16, 0xFFFF#16, 0x0000#16, true, true⟩
/-- CRC-32/ISO-HDLC (IEEE 802.3) -/
def crc32Ieee : CrcParams 32 := ⟨0x04C11DB7#32, 0xFFFFFFFF#32, 0xFFFFFFFF#32, true, true⟩

/-! ## simulation: the reflected register is the bit-reversal of the MSB-first register -/

/-- the LSB-first (reflected) shift with an arbitrary constant `q` -/
def reflShift {w : Nat} (q r : BitVec w) : BitVec w :=
  if r.getLsbD 0 then (r >>> 1) ^^^ q else r >>> 1

theorem reverse_xor {w : Nat} (x y : BitVec w) : (x ^^^ y).reverse = x.reverse ^^^ y.reverse := by
  apply BitVec.eq_of_getLsbD_eq
  intro i hi
  simp only [BitVec.getLsbD_reverse, BitVec.getLsbD_xor, BitVec.getMsbD_xor]

theorem reverse_shiftLeft {w : Nat} (x : BitVec w) (n : Nat) : (x <<< n).reverse = x.reverse >>> n := by
  apply BitVec.eq_of_getLsbD_eq
  intro i _
  rw [BitVec.getLsbD_reverse, BitVec.getMsbD_shiftLeft, BitVec.getLsbD_ushiftRight,
    BitVec.getLsbD_reverse, Nat.add_comm]

theorem reverse_setWidth_shiftLeft {v w : Nat} (h : v ≤ w) (y : BitVec v) :
    (y.setWidth w <<< (w - v)).reverse = y.reverse.setWidth w := by
  apply BitVec.eq_of_getLsbD_eq
  intro i hi
  rw [BitVec.getLsbD_reverse, BitVec.getMsbD_shiftLeft, BitVec.getMsbD_setWidth,
    BitVec.getLsbD_setWidth, BitVec.getLsbD_reverse, show i + (w - v) + v - w = i by omega,
    decide_eq_true (show w - v ≤ i + (w - v) by omega), decide_eq_true hi]

theorem reflShift_reverse {w : Nat} (poly x : BitVec w) :
    reflShift poly.reverse x = (crcShift poly x.reverse).reverse := by
  unfold reflShift crcShift
  rw [BitVec.msb_reverse]
  split
  · rw [reverse_xor, reverse_shiftLeft, BitVec.reverse_reverse_eq]
  · rw [reverse_shiftLeft, BitVec.reverse_reverse_eq]

/-- xoring a byte into the low 8 bits of the reflected register is xoring the reversed byte into the top 8 bits of the
MSB-first register -/
theorem reflFeed_reverse {w : Nat} (hw : 8 ≤ w) (p : CrcParams w) (hp : p.refin = true)
    (x : BitVec w) (b : UInt8) :
    (let s := reflShift p.poly.reverse
     let c := x ^^^ b.toBitVec.zeroExtend w
     s (s (s (s (s (s (s (s c))))))))
      = (crcFeed p x.reverse b).reverse := by
  simp only [crcFeed, hp, if_true]
  simp only [reflShift_reverse, BitVec.reverse_reverse_eq]
  congr 9
  rw [reverse_xor]
  congr 1
  have := congrArg BitVec.reverse (reverse_setWidth_shiftLeft hw b.toBitVec.reverse)
  rw [BitVec.reverse_reverse_eq, BitVec.reverse_reverse_eq] at this
  exact this.symm

/-- the Go test `crc & 1 != 0` reads the lowest bit -/
theorem and_one_bne_zero {w : Nat} (hw : 0 < w) (x : BitVec w) : (x &&& 1#w != 0#w) = x.getLsbD 0 := by
  obtain ⟨v, rfl⟩ : ∃ v, w = v + 1 := ⟨w - 1, by omega⟩
  rw [BitVec.and_one_eq_setWidth_ofBool_getLsbD]
  cases x.getLsbD 0 <;> simp

theorem bne_eq_of_inj {α β : Type} [DecidableEq α] [DecidableEq β] (f : α → β)
    (hf : ∀ {a b}, f a = f b ↔ a = b) (a b : α) : (a != b) = (f a != f b) := by
  rw [bne, bne, Bool.beq_eq_decide_eq, Bool.beq_eq_decide_eq, decide_eq_decide.mpr hf.symm]

theorem crc16Bit_toBitVec (c : UInt16) :
    (crc16Bit c).toBitVec = reflShift (0x8005#16).reverse c.toBitVec := by
  have hq : (0x8005#16).reverse = 0xA001#16 := by decide +kernel
  unfold crc16Bit reflShift
  -- the `show` states the test on `c.toBitVec` in the words the goal uses (`(c &&& 1).toBitVec` unfolds to it)
  rw [hq, ← and_one_bne_zero (by decide), show (c.toBitVec &&& 1#16 != 0#16) = (c &&& 1 != 0) from
    (bne_eq_of_inj _ UInt16.toBitVec_inj _ _).symm]
  split <;> rfl

theorem crc16Byte_reverse (x : UInt16) (b : UInt8) :
    (crc16Byte x b).toBitVec = (crcFeed crc16Modbus x.toBitVec.reverse b).reverse := by
  rw [← reflFeed_reverse (by decide) crc16Modbus rfl]
  simp only [crc16Byte, crc16Bit_toBitVec]
  rfl

theorem crc16_fold (bs : Bytes) (x : UInt16) :
    (bs.foldl crc16Byte x).toBitVec
      = (bs.foldl (crcFeed crc16Modbus) x.toBitVec.reverse).reverse := by
  have h := List.foldl_hom (fun x : UInt16 => x.toBitVec.reverse) (g₁ := crc16Byte) (l := bs)
    (init := x) (g₂ := crcFeed crc16Modbus)
    (fun x b => by rw [crc16Byte_reverse, BitVec.reverse_reverse_eq])
  rw [h, BitVec.reverse_reverse_eq]

theorem crc16Go_eq_modbus (bs : Bytes) :
    (crc16Go bs).toBitVec = crcRef ⟨0x8005#16, 0xFFFF#16, 0x0000#16, true, true⟩ bs := by
  show _ = crcRef crc16Modbus bs
  have hi : (0xFFFF : UInt16).toBitVec.reverse = crc16Modbus.init := by decide +kernel
  unfold crc16Go crcRef
  rw [crc16_fold, hi]
  simp [crc16Modbus]

theorem crc32Bit_toBitVec (c : UInt32) :
    (crc32Bit c).toBitVec = reflShift (0x04C11DB7#32).reverse c.toBitVec := by
  have hq : (0x04C11DB7#32).reverse = 0xEDB88320#32 := by decide +kernel
  unfold crc32Bit reflShift
  rw [hq, ← and_one_bne_zero (by decide), show (c.toBitVec &&& 1#32 != 0#32) = (c &&& 1 != 0) from
    (bne_eq_of_inj _ UInt32.toBitVec_inj _ _).symm]
  split <;> rfl

theorem crc32Byte_reverse (x : UInt32) (b : UInt8) :
    (crc32Byte x b).toBitVec = (crcFeed crc32Ieee x.toBitVec.reverse b).reverse := by
  rw [← reflFeed_reverse (by decide) crc32Ieee rfl]
  simp only [crc32Byte, crc32Bit_toBitVec]
  rfl

theorem crc32_fold (bs : Bytes) (x : UInt32) :
    (bs.foldl crc32Byte x).toBitVec
      = (bs.foldl (crcFeed crc32Ieee) x.toBitVec.reverse).reverse := by
  have h := List.foldl_hom (fun x : UInt32 => x.toBitVec.reverse) (g₁ := crc32Byte) (l := bs)
    (init := x) (g₂ := crcFeed crc32Ieee)
    (fun x b => by rw [crc32Byte_reverse, BitVec.reverse_reverse_eq])
  rw [h, BitVec.reverse_reverse_eq]

theorem crc32Go_eq_ieee (bs : Bytes) :
    (crc32Go bs).toBitVec
      = crcRef ⟨0x04C11DB7#32, 0xFFFFFFFF#32, 0xFFFFFFFF#32, true, true⟩ bs := by
  show _ = crcRef crc32Ieee bs
  have hi : (0xFFFFFFFF : UInt32).toBitVec.reverse = crc32Ieee.init := by decide +kernel
  unfold crc32Go crcRef
  rw [UInt32.toBitVec_xor, crc32_fold, hi]
  simp [crc32Ieee]

/-- the ASCII string "123456789"; the catalogue lists the CRC of it as the "check" value of each entry -/
def check9 : Bytes := [0x31, 0x32, 0x33, 0x34, 0x35, 0x36, 0x37, 0x38, 0x39]

example : crc16Go check9 = 0x4B37 := by decide +kernel
example : crcRef crc16Modbus check9 = 0x4B37#16 := by decide +kernel
example : crc32Go check9 = 0xCBF43926 := by decide +kernel
example : crcRef crc32Ieee check9 = 0xCBF43926#32 := by decide +kernel
/-- 0x31 + … + 0x39 = 477 = 0x1DD -/
example : sseGo check9 = 0xDD ∧ szseGo check9 = 0xDD := by decide +kernel

/-- the reference itself against further catalogue entries, exercising `refin = refout = false`
and other polynomials (CRC-16/XMODEM, CRC-16/IBM-3740 "CCITT-FALSE", CRC-16/ARC, CRC-32/BZIP2) -/
example : crcRef ⟨0x1021#16, 0x0000#16, 0x0000#16, false, false⟩ check9 = 0x31C3#16 := by
  decide +kernel
example : crcRef ⟨0x1021#16, 0xFFFF#16, 0x0000#16, false, false⟩ check9 = 0x29B1#16 := by
  decide +kernel
example : crcRef ⟨0x8005#16, 0x0000#16, 0x0000#16, true, true⟩ check9 = 0xBB3D#16 := by
  decide +kernel
example : crcRef ⟨0x04C11DB7#32, 0xFFFFFFFF#32, 0xFFFFFFFF#32, false, false⟩ check9
    = 0xFC891918#32 := by decide +kernel

example : (crc16Go check9).toBitVec = 0x4B37#16 ∧
    crcRef ⟨0x8005#16, 0xFFFF#16, 0x0000#16, true, true⟩ check9 = 0x4B37#16 := by decide +kernel
example : (crc32Go check9).toBitVec = 0xCBF43926#32 ∧
    crcRef ⟨0x04C11DB7#32, 0xFFFFFFFF#32, 0xFFFFFFFF#32, true, true⟩ check9 = 0xCBF43926#32 := by
  decide +kernel

end FinProto
