/-
  C02: the library's encoder (`encTy`, buffer-threading, message-updating, `Outcome`) produces exactly
  the bytes of the independent renderer of the schema (`Spec.renderTy`), and succeeds exactly when the
  renderer does.  Generic over `env`; the relation between an encoder step and a rendered result is `Agree`.
-/
import FinProto.Spec
import FinProto.Pinned
import FinProto.Props.EncForm
namespace FinProto

theorem padOrCut_eq_writeFixed (n : Nat) (pad : UInt8) (left : Bool) (s : Bytes) :
    Spec.padOrCut n pad left s = writeFixed n pad left s := rfl

/-- forget why a writer failed -/
def toOpt : Outcome Bytes → Option Bytes
  | .ok b => some b
  | _ => none

@[simp] theorem toOpt_ok (b : Bytes) : toOpt (.ok b) = some b := rfl
@[simp] theorem toOpt_err : toOpt .err = none := rfl
@[simp] theorem toOpt_panic : toOpt .panic = none := rfl

theorem toOpt_eq_some {o : Outcome Bytes} {b : Bytes} : toOpt o = some b ↔ o = .ok b := by
  cases o <;> simp [toOpt]

theorem toOpt_eq_none {o : Outcome Bytes} : toOpt o = none ↔ ∀ b, o ≠ .ok b := by
  cases o <;> simp [toOpt]

theorem toOpt_map (o : Outcome Bytes) (f : Bytes → Bytes) : toOpt (o.map f) = (toOpt o).map f := by
  cases o <;> rfl

theorem toOpt_bind (o : Outcome Bytes) (f : Bytes → Outcome Bytes) :
    toOpt (o.bind f) = (toOpt o).bind (fun b => toOpt (f b)) := by
  cases o <;> rfl

theorem toOpt_writeLen_map (w : Nat) (e : Endian) (n : Nat) (p : Bytes) :
    toOpt ((writeLen w e n).map (· ++ p)) = Spec.prefixed w e n p := by
  unfold writeLen Spec.prefixed; split <;> rfl

theorem toOpt_writeVstr (pw : Nat) (e : Endian) (s : Bytes) :
    toOpt (writeVstr pw e s) = Spec.prefixed pw e s.length s := toOpt_writeLen_map pw e s.length s

theorem toOpt_writeAll {α : Type} (f : α → Outcome Bytes) (l : List α) :
    toOpt (writeAll f l) = Spec.concatAll (l.map (fun a => toOpt (f a))) := by
  induction l with
  | nil => rfl
  | cons a as ih =>
    simp only [writeAll, List.map_cons]
    cases h : f a with
    | ok b => simp only [Outcome.bind_ok, toOpt_map, ih, toOpt_ok, Spec.concatAll]
    | err => rfl
    | panic => rfl

theorem concatAll_some {α : Type} (g : α → Bytes) (l : List α) :
    Spec.concatAll (l.map (fun a => some (g a))) = some (l.flatMap g) := by
  induction l with
  | nil => rfl
  | cons a as ih => simp only [List.map_cons, Spec.concatAll, ih, Option.map_some, List.flatMap_cons]

theorem prefix_bind_eq (w : Nat) (e : Endian) (n : Nat) (o : Option Bytes) :
    (toOpt (writeLen w e n)).bind (fun c => o.map (c ++ ·)) = o.bind (Spec.prefixed w e n) := by
  unfold writeLen Spec.prefixed
  cases o <;> split <;> rfl

theorem toOpt_writeList {α : Type} (cw : Nat) (e : Endian) (f : α → Outcome Bytes) (l : List α) :
    toOpt (writeList cw e f l) =
      (Spec.concatAll (l.map (fun a => toOpt (f a)))).bind (Spec.prefixed cw e l.length) := by
  unfold writeList
  rw [toOpt_bind, ← prefix_bind_eq, ← toOpt_writeAll]
  congr 1
  funext c
  exact toOpt_map _ _

theorem toOpt_writeNums (cw w : Nat) (e : Endian) (l : List Nat) :
    toOpt (writeNums cw w e l) = Spec.prefixed cw e l.length (l.flatMap (toE e w)) := by
  rw [writeNums_eq]; exact toOpt_writeLen_map ..

theorem toOpt_writeFixeds (cw n : Nat) (pad : UInt8) (left : Bool) (e : Endian) (l : List Bytes) :
    toOpt (writeFixeds cw n pad left e l) =
      Spec.prefixed cw e l.length (l.flatMap (Spec.padOrCut n pad left)) := by
  rw [writeFixeds_eq, funext (padOrCut_eq_writeFixed n pad left)]
  exact toOpt_writeLen_map ..

theorem toOpt_writeVstrs (cw pw : Nat) (e : Endian) (l : List Bytes) :
    toOpt (writeVstrs cw pw e l) =
      (Spec.concatAll (l.map (fun s => Spec.prefixed pw e s.length s))).bind (Spec.prefixed cw e l.length) := by
  unfold writeVstrs
  rw [toOpt_writeList]
  simp only [toOpt_writeVstr]

/-- the encoder step `x` only appends, and what it appends to the empty buffer is the renderer's answer -/
structure Agree {α : Type} (x : E α) (o : Option Bytes) : Prop where
  appends : Appends x
  bytes : toOpt ((x []).map (·.2)) = o

theorem agree_lift {α : Type} (w : Outcome (α × Bytes)) : Agree (lift w) (toOpt (w.map (·.2))) :=
  ⟨.of_lift fun _ => rfl, by cases w <;> rfl⟩

theorem Agree.eq_render {α : Type} {x : E α} {o : Option Bytes} (h : Agree x o) (pre : Bytes) :
    (∀ a out, x pre = .ok (a, out) → ∃ bs, o = some bs ∧ out = pre ++ bs) ∧
    (∀ bs, o = some bs → ∃ a, x pre = .ok (a, pre ++ bs)) := by
  obtain ⟨hx, rfl⟩ := h
  refine ⟨fun a out hok => ?_, fun bs hbs => ?_⟩
  · obtain ⟨bs, h0, rfl⟩ := hx.eq_ok.mp hok
    exact ⟨bs, by rw [h0]; rfl, rfl⟩
  · obtain ⟨p, h0, rfl⟩ := Outcome.map_eq_ok.mp (toOpt_eq_some.mp hbs)
    exact ⟨p.1, hx.eq_ok.mpr ⟨p.2, h0, rfl⟩⟩

theorem agree_pure {α : Type} (a : α) : Agree (fun buf => .ok (a, buf) : E α) (some []) := ⟨appends_pure a, rfl⟩

theorem agree_errE {α : Type} : Agree (errE : E α) none := ⟨appends_errE, rfl⟩

theorem agree_panicE {α : Type} : Agree (panicE : E α) none := ⟨appends_panicE, rfl⟩

theorem agree_emit {α : Type} (v : α) (o : Outcome Bytes) : Agree (emit v o) (toOpt o) :=
  ⟨appends_emit v o, by cases o <;> rfl⟩

theorem agree_mapE {α β : Type} {x : E α} (f : α → β) {o : Option Bytes} (h : Agree x o) : Agree (mapE f x) o :=
  ⟨appends_mapE f h.1, by rw [← h.2, mapE]; cases x [] <;> rfl⟩

/-- the bytes of a sequenced buffer-free run, if the continuation's bytes do not depend on the value handed on -/
theorem toOpt_bind_snd {α β : Type} {w : Outcome (α × Bytes)} {k : α × Bytes → Outcome (β × Bytes)}
    {o : Option Bytes} {k' : Bytes → Option Bytes} (hw : toOpt (w.map (·.2)) = o)
    (hk : ∀ p, toOpt ((k p).map (·.2)) = k' p.2) : toOpt ((w.bind k).map (·.2)) = o.bind k' := by
  subst hw
  cases w with
  | ok p => exact hk p
  | err => rfl
  | panic => rfl

/-- sequencing: the second step's rendering must not depend on the first step's updated value -/
theorem agree_bindE {α β : Type} {x : E α} {f : α → E β} {o o' : Option Bytes}
    (hx : Agree x o) (hf : ∀ a, Agree (f a) o') :
    Agree (bindE x f) (o.bind fun b => o'.map (b ++ ·)) := by
  refine ⟨appends_bindE hx.1 fun a => (hf a).1, toOpt_bind_snd hx.2 fun p => ?_⟩
  rw [(hf p.1).1 p.2, ← (hf p.1).2]
  cases f p.1 [] <;> rfl

theorem agree_encSeq {step : Op → Val → E Val} {rstep : Op → Val → Option Bytes}
    (hs : ∀ op v, Agree (step op v) (rstep op v)) :
    ∀ ops vs, Agree (encSeq step ops vs) (Spec.renderFields rstep ops vs)
  | [], [] => agree_pure _
  | [], _ :: _ => agree_errE
  | _ :: _, [] => agree_errE
  | op :: ops, v :: vs => agree_bindE (hs op v) (fun _ => agree_mapE _ (agree_encSeq hs ops vs))

theorem agree_encAll {f : Val → E Val} {r : Val → Option Bytes} (hf : ∀ v, Agree (f v) (r v)) :
    ∀ vs, Agree (encAll f vs) (Spec.concatAll (vs.map r))
  | [] => agree_pure _
  | v :: vs => by
    have h := agree_bindE (hf v) (fun v' => agree_mapE (fun vs' => v' :: vs') (agree_encAll hf vs))
    simp only [encAll, List.map_cons]
    cases hv : r v <;> rw [hv] at h <;> exact h

theorem agree_encPtr {enc : Nat → Val → E Val} {r : Nat → Val → Option Bytes}
    (henc : ∀ ty v, Agree (enc ty v) (r ty v))
    (g : Guard) (mk : Option Val) (ty? : Option Nat) (v : Val) :
    Agree (encPtr enc g mk ty? v) (Spec.renderPtr r g mk ty? v) := by
  fun_cases encPtr enc g mk ty? v <;> simp only [Spec.renderPtr]
  · exact agree_panicE
  · exact agree_errE
  · exact agree_pure _
  · exact henc _ _
  · exact agree_errE
  · exact henc _ _
  · exact agree_errE

theorem agree_encOp (env : Env) {enc : Nat → Val → E Val} {r : Nat → Val → Option Bytes}
    (henc : ∀ ty v, Agree (enc ty v) (r ty v)) (zero : Nat → Val) (all : List Val) (op : Op) (v : Val) :
    Agree (encOp env enc zero all op v) (Spec.renderField env r zero all op v) := by
  -- one case per clause of `encOp`; `renderField` has the same clauses
  fun_cases encOp env enc zero all op v <;> simp only [Spec.renderField]
  · exact agree_emit _ (.ok _)
  · rw [padOrCut_eq_writeFixed]; exact agree_emit _ (.ok _)
  · rw [← toOpt_writeVstr]; exact agree_emit _ _
  · rw [← toOpt_writeNums]; exact agree_emit _ _
  · rw [← toOpt_writeFixeds]; exact agree_emit _ _
  · rw [← toOpt_writeVstrs]; exact agree_emit _ _
  · rw [if_pos trivial]; exact henc _ _
  · rw [if_neg ‹_›]; exact agree_errE
  · exact agree_encPtr henc _ _ _ _
  · exact agree_errE
  · rw [← prefix_bind_eq]
    exact agree_bindE (agree_emit _ _) (fun _ => agree_mapE _ (agree_encAll (henc _) _))
  · exact agree_encPtr henc _ _ _ _
  · exact agree_errE

/-- the frame branch of `Spec.renderTy`, over the renderer `r` of the next fuel level -/
def renderFrame (env : Env) (r : Nat → Val → Option Bytes) (zero : Nat → Val) (fd : FrameDesc)
    (fields : List Val) : Option Bytes :=
  let nh := fd.hdr.length
  let okLen := match fd.cks with
    | none => fields.length == nh + 2
    | some _ => fields.length == nh + 3
  if !okLen then none else
  (Spec.renderFields (Spec.renderField env r zero fields) fd.hdr (fields.take nh)).bind fun hdr =>
  (fields[nh + 1]?).bind fun body =>
  (Spec.renderPtr r fd.g ((unionTy env fd.key fd.tbl fields).map zero)
      (unionTy env fd.key fd.tbl fields) body).map fun bodyBytes =>
  let frame := hdr ++ toE fd.e fd.lenW (bodyBytes.length % 2 ^ 32) ++ bodyBytes
  match fd.cks with
  | none => frame
  | some (alg, w) => frame ++ toE fd.e w (cksNat alg frame)

theorem ite_bind_none {α β : Type} (c : Bool) (o : Option α) (f : α → Option β) :
    (if c then o.bind f else none) = o.bind fun a => if c then f a else none := by
  cases c <;> cases o <;> rfl

theorem ite_map_none {α β : Type} (c : Bool) (o : Option α) (g : α → β) :
    (if c then o.map g else none) = o.bind fun a => if c then some (g a) else none := by
  cases c <;> cases o <;> rfl

theorem agree_encFrame (env : Env) {enc : Nat → Val → E Val} {r : Nat → Val → Option Bytes}
    (henc : ∀ ty v, Agree (enc ty v) (r ty v)) (zero : Nat → Val) (fd : FrameDesc) (ty : Nat)
    (fields : List Val) :
    Agree (encFrame env enc zero fd ty fields) (renderFrame env r zero fd fields) := by
  have hH := (agree_encSeq (agree_encOp env henc zero fields) fd.hdr (fields.take fd.hdr.length)).bytes
  have hP := fun body => (agree_encPtr henc fd.g ((unionTy env fd.key fd.tbl fields).map zero)
    (unionTy env fd.key fd.tbl fields) body).bytes
  rw [funext (encFrame_eq_lift (fun ty v => (henc ty v).appends) zero fd ty fields)]
  suffices key : toOpt ((frameW env enc zero fd ty fields).map (·.2)) = renderFrame env r zero fd fields by
    rw [← key]
    exact agree_lift _
  -- `frameW` and `renderFrame` go the same way (header, body lookup, body, trailer), except that the renderer
  -- checks the field count first and `frameW` last; a chain that fails is `none` either way, so the check moves inwards
  have e : ∀ (c : Bool) (x : Option Bytes), (if !c then none else x) = if c then x else none := by
    intro c x
    cases c <;> rfl
  simp only [renderFrame, e, ite_bind_none, ite_map_none]
  refine toOpt_bind_snd hH fun ⟨hv, hb⟩ => ?_
  cases fields[fd.hdr.length + 1]? with
  | none => rfl
  | some body =>
    refine toOpt_bind_snd (hP body) fun ⟨body', bb⟩ => ?_
    rcases hc : fd.cks with _ | ⟨alg, w⟩ <;>
      simp only [FrameDesc.trailer, hc, frameBytes, frameLen, List.length_nil, List.length_cons, List.append_nil,
        beq_iff_eq] <;>
      split <;>
      rfl

theorem renderTy_frame {env : Env} {f ty : Nat} {td : TyDef} {fd : FrameDesc} (fields : List Val)
    (htd : env.types[ty]? = some td) (hfr : td.frame = some fd) :
    Spec.renderTy env (f + 1) ty (.msg ty fields) =
      renderFrame env (Spec.renderTy env f) (zeroTy env f) fd fields := by
  simp only [Spec.renderTy, if_true, htd, hfr]
  rfl

theorem agree_encTy (env : Env) : ∀ f ty v, Agree (encTy env f ty v) (Spec.renderTy env f ty v) := by
  intro f
  induction f with
  | zero => intro ty v; exact agree_errE
  | succ f ih =>
    intro ty v
    cases v with
    | msg ty' fields =>
      by_cases hty : ty' = ty
      · subst hty
        cases htd : env.types[ty']? with
        | none => simp only [encTy, Spec.renderTy, if_true, htd]; exact agree_errE
        | some td =>
          cases hfr : td.frame with
          | none =>
            simp only [encTy, Spec.renderTy, if_true, htd, hfr]
            exact agree_mapE _ (agree_encSeq (agree_encOp env ih _ _) _ _)
          | some fd =>
            rw [renderTy_frame fields htd hfr, encTy_frame fields htd hfr]
            exact agree_encFrame env ih _ _ _ _
      · simp only [encTy, Spec.renderTy, if_neg hty]; exact agree_errE
    | nil => exact agree_panicE
    | _ => exact agree_errE

/-- C02: the encoder succeeds exactly when the independent renderer does, and appends exactly the rendered
    bytes — for EVERY value (canonical or not) and every buffer -/
theorem enc_eq_render (env : Env) : ∀ f ty v pre,
    (∀ v' out, encTy env f ty v pre = .ok (v', out) →
        ∃ bs, Spec.renderTy env f ty v = some bs ∧ out = pre ++ bs) ∧
    (∀ bs, Spec.renderTy env f ty v = some bs → ∃ v', encTy env f ty v pre = .ok (v', pre ++ bs)) :=
  fun f ty v pre => (agree_encTy env f ty v).eq_render pre

theorem agree_encode (env : Env) (v : Val) : Agree (encode env v) (Spec.render env v) := by
  cases v with
  | msg ty fs => exact agree_encTy env env.fuel ty (.msg ty fs)
  | _ => exact agree_errE

/-- the same statement at the top level (`encode` / `Spec.render`) -/
theorem encode_eq_render (env : Env) (v : Val) (pre : Bytes) :
    (∀ v' out, encode env v pre = .ok (v', out) → ∃ bs, Spec.render env v = some bs ∧ out = pre ++ bs) ∧
    (∀ bs, Spec.render env v = some bs → ∃ v', encode env v pre = .ok (v', pre ++ bs)) :=
  (agree_encode env v).eq_render pre

theorem tableEquiv_lookup {a b : List (Key × Nat)} (h : Spec.tableEquiv a b = true) (k : Key) :
    lookupKey k a.reverse = lookupKey k b.reverse := by
  simp only [Spec.tableEquiv, Bool.and_eq_true, List.all_eq_true, beq_iff_eq] at h
  obtain ⟨ha, hb⟩ := h
  by_cases h1 : ∃ kv ∈ a, kv.1 = k
  · obtain ⟨kv, hkv, rfl⟩ := h1; exact ha kv hkv
  · by_cases h2 : ∃ kv ∈ b, kv.1 = k
    · obtain ⟨kv, hkv, rfl⟩ := h2; exact hb kv hkv
    · rw [lookupKey_eq_none (l := a.reverse), lookupKey_eq_none (l := b.reverse)]
      · intro kv hkv hk; exact h2 ⟨kv, List.mem_reverse.mp hkv, hk⟩
      · intro kv hkv hk; exact h1 ⟨kv, List.mem_reverse.mp hkv, hk⟩

theorem Env.lookup_eq (env : Env) (tbl : Nat) (k : Key) :
    env.lookup tbl k = (env.tables[tbl]?).bind (fun t => lookupKey k t.reverse) := by
  unfold Env.lookup
  cases env.tables[tbl]? <;> rfl

theorem tablesEquiv_lookup {as bs : List (List (Key × Nat))} (h : Spec.tablesEquiv as bs = true)
    (t : Nat) (k : Key) :
    (as[t]?).bind (fun x => lookupKey k x.reverse) = (bs[t]?).bind (fun x => lookupKey k x.reverse) := by
  induction as generalizing bs t with
  | nil =>
    cases bs with
    | nil => rfl
    | cons b bs => simp only [Spec.tablesEquiv] at h; cases h
  | cons a as ih =>
    cases bs with
    | nil => simp only [Spec.tablesEquiv] at h; cases h
    | cons b bs =>
      simp only [Spec.tablesEquiv, Bool.and_eq_true] at h
      cases t with
      | zero => simp only [List.getElem?_cons_zero, Option.bind_some]; exact tableEquiv_lookup h.1 k
      | succ t => simp only [List.getElem?_cons_succ]; exact ih h.2 t

theorem tablesEquiv_length {as bs : List (List (Key × Nat))} (h : Spec.tablesEquiv as bs = true) :
    as.length = bs.length := by
  induction as generalizing bs with
  | nil =>
    cases bs with
    | nil => rfl
    | cons b bs => simp only [Spec.tablesEquiv] at h; cases h
  | cons a as ih =>
    cases bs with
    | nil => simp only [Spec.tablesEquiv] at h; cases h
    | cons b bs =>
      simp only [Spec.tablesEquiv, Bool.and_eq_true] at h
      simp only [List.length_cons, ih h.2]

theorem lookup_table_equiv {env env' : Env} (h : Spec.tablesEquiv env.tables env'.tables = true)
    (t : Nat) (k : Key) : env.lookup t k = env'.lookup t k := by
  rw [Env.lookup_eq, Env.lookup_eq]
  exact tablesEquiv_lookup h t k

section Congr
variable {env env' : Env} (ht : env.types = env'.types) (hl : ∀ t k, env.lookup t k = env'.lookup t k)
include hl

theorem unionTy_congr : unionTy env = unionTy env' := by
  funext key tbl fields
  have : env.lookup tbl = env'.lookup tbl := funext (hl tbl)
  simp only [unionTy, this]

/- `renderField`, `decOp`, `encOp`, `encFrame` mention `env` only through `unionTy env` -/

theorem renderField_congr : Spec.renderField env = Spec.renderField env' := by
  funext r z all op v
  unfold Spec.renderField
  rw [unionTy_congr hl]

theorem decOp_congr : decOp env = decOp env' := by
  funext d acc op
  unfold decOp
  rw [unionTy_congr hl]

theorem encOp_congr : encOp env = encOp env' := by
  funext enc z all op v
  unfold encOp
  rw [unionTy_congr hl]

theorem encFrame_congr : encFrame env = encFrame env' := by
  funext enc z fd ty fields buf
  unfold encFrame
  rw [encOp_congr hl, unionTy_congr hl]

include ht

omit hl in
theorem zeroTy_congr : zeroTy env = zeroTy env' := by
  funext f
  induction f with
  | zero => rfl
  | succ f ih => funext ty; unfold zeroTy; rw [ih, ht]

theorem renderTy_congr : Spec.renderTy env = Spec.renderTy env' := by
  funext f
  induction f with
  | zero => rfl
  | succ f ih =>
    funext ty v
    cases v with
    | msg ty' fs =>
      simp only [Spec.renderTy, ih, ht, unionTy_congr hl, zeroTy_congr ht, renderField_congr hl]
    | _ => rfl

theorem decTy_congr : decTy env = decTy env' := by
  funext f
  induction f with
  | zero => rfl
  | succ f ih => funext ty; unfold decTy; rw [ih, ht, decOp_congr hl]

theorem encTy_congr : encTy env = encTy env' := by
  funext f
  induction f with
  | zero => rfl
  | succ f ih =>
    funext ty v
    cases v with
    | msg ty' fs => simp only [encTy, ih, ht, zeroTy_congr ht, encOp_congr hl, encFrame_congr hl]
    | _ => rfl

theorem render_congr : Spec.render env = Spec.render env' := by
  funext v
  cases v <;> simp only [Spec.render, Env.fuel, ht, renderTy_congr ht hl]

theorem decode_congr : decode env = decode env' := by
  funext ty
  simp only [decode, Env.fuel, ht, decTy_congr ht hl]

theorem encode_congr : encode env = encode env' := by
  funext v
  cases v <;> simp only [encode, Env.fuel, ht, encTy_congr ht hl]

end Congr

/-- C02 corollary: an environment whose discriminator tables were registered in a different order (or with
    overridden duplicates) but denote the same finite maps renders, decodes and encodes identically -/
theorem render_table_equiv {env env' : Env} (h : Spec.tablesEquiv env.tables env'.tables = true)
    (ht : env.types = env'.types) :
    (∀ t k, env.lookup t k = env'.lookup t k) ∧
    Spec.renderTy env = Spec.renderTy env' ∧ decTy env = decTy env' ∧ encTy env = encTy env' ∧
    Spec.render env = Spec.render env' ∧ decode env = decode env' ∧ encode env = encode env' :=
  have hl := lookup_table_equiv h
  ⟨hl, renderTy_congr ht hl, decTy_congr ht hl, encTy_congr ht hl, render_congr ht hl,
    decode_congr ht hl, encode_congr ht hl⟩

section Examples

example : Spec.padOrCut 4 32 false [65, 66] = [65, 66, 32, 32] ∧ writeFixed 4 32 false [65, 66] = [65, 66, 32, 32] := by
  decide
example : Spec.padOrCut 4 48 true [65, 66] = [48, 48, 65, 66] := by decide
example : Spec.padOrCut 1 32 false [65, 66] = [65] := by decide

/-- the SSE frame (type 96) carrying a Heartbeat (type 88, no fields): header, corrected length 0, no body
    bytes, SSE checksum 33 + 7 = 40 -/
theorem exRenderHeartbeat :
    Spec.render Pinned.env (.msg 96 [.num 33, .num 7, .num 99, .msg 88 [], .num 5])
      = some [0,0,0,33, 0,0,0,0,0,0,0,7, 0,0,0,0, 0,0,0,40] := by decide +kernel

/-- hence (by `encode_eq_render`, not by evaluation) the library's encoder appends exactly these bytes to any buffer -/
example (pre : Bytes) : ∃ v', encode Pinned.env (.msg 96 [.num 33, .num 7, .num 99, .msg 88 [], .num 5]) pre
    = .ok (v', pre ++ [0,0,0,33, 0,0,0,0,0,0,0,7, 0,0,0,0, 0,0,0,40]) :=
  (encode_eq_render Pinned.env _ pre).2 _ exRenderHeartbeat

/-- a frame with a non-empty body (type 94 = sse.PlatformState: two 2-byte scalars, key 209) -/
theorem exRenderBody :
    Spec.render Pinned.env (.msg 96 [.num 209, .num 7, .num 0, .msg 94 [.num 1, .num 2], .num 0])
      = some [0,0,0,209, 0,0,0,0,0,0,0,7, 0,0,0,4, 0,1, 0,2, 0,0,0,223] := by decide +kernel

/-- an absent body under the frame's `skip` guard renders as no bytes -/
example : Spec.render Pinned.env (.msg 96 [.num 33, .num 7, .num 99, .nil, .num 5])
      = some [0,0,0,33, 0,0,0,0,0,0,0,7, 0,0,0,0, 0,0,0,40] := by decide +kernel

/-- non-canonical text: over-long text is cut (type 107 = szse.Extend100601: one 1-byte text field) -/
example : Spec.render Pinned.env (.msg 107 [.str [65, 66]]) = some [65] := by decide +kernel

/-- the failure side: a frame value with a missing trailer field renders to nothing, so the encoder never succeeds -/
theorem exRenderNone :
    Spec.render Pinned.env (.msg 96 [.num 33, .num 7, .num 99, .msg 88 []]) = none := by decide +kernel

example (pre : Bytes) (v' : Val) (out : Bytes) :
    encode Pinned.env (.msg 96 [.num 33, .num 7, .num 99, .msg 88 []]) pre ≠ .ok (v', out) := by
  intro h
  obtain ⟨bs, hbs, _⟩ := (encode_eq_render Pinned.env _ pre).1 v' out h
  rw [exRenderNone] at hbs; cases hbs

/-- the pinned tables registered in the opposite order: a different `Env`, the same finite maps -/
def exEnvRev : Env := { types := Pinned.env.types, tables := Pinned.env.tables.map List.reverse }

theorem exEnvRev_equiv : Spec.tablesEquiv Pinned.env.tables exEnvRev.tables = true := by decide +kernel

example : Pinned.env.tables ≠ exEnvRev.tables := by decide +kernel

example : Spec.render exEnvRev (.msg 96 [.num 33, .num 7, .num 99, .msg 88 [], .num 5])
      = some [0,0,0,33, 0,0,0,0,0,0,0,7, 0,0,0,0, 0,0,0,40] := by
  rw [← (render_table_equiv exEnvRev_equiv rfl).2.2.2.2.1]; exact exRenderHeartbeat

end Examples

end FinProto
