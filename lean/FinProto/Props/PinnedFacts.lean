/-
  The decidable side conditions of `Checks.lean`, evaluated by the kernel once on the pinned schema.
  The non-vacuity examples of the theorem files instantiate their theorems with these.
-/
import FinProto.Props.SideConds
import FinProto.Pinned
namespace FinProto

theorem Pinned.mirrorOK : Pinned.env.mirrorOK = true := by decide +kernel
theorem Pinned.keysOK : Pinned.env.keysOK = true := by decide +kernel
theorem Pinned.widthsOK : Pinned.env.widthsOK = true := by decide +kernel
theorem Pinned.framesTop : Pinned.env.framesTop = true := by rw [Env.framesTop_eq]; decide +kernel
theorem Pinned.elemsOK : Pinned.env.elemsOK = true := by decide +kernel
theorem Pinned.guardsOK : Pinned.env.guardsOK = true := by decide +kernel
theorem Pinned.refsOK : Pinned.env.refsOK = true := by decide +kernel

end FinProto
