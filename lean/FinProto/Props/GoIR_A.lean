/-
  The committed translations (`PinnedIR`) of `WriteBasicType[LE]`, `ReadBasicType[LE]`, `writeLen`, `WriteString[LE]` and
  `ReadString[LE]`, run by GoIR's semantics, compute `writeScalar`, `readScalar`, `writeLen`, `writeVstr` and `readVstr` of
  `Prim.lean` on every input.
-/
import FinProto.Props.GoIRSim
namespace FinProto.GoIR
open FinProto

private theorem prog_0 : prog[0]? = some PinnedIR.fn0 := rfl
private theorem prog_1 : prog[1]? = some PinnedIR.fn1 := rfl
private theorem prog_2 : prog[2]? = some PinnedIR.fn2 := rfl
private theorem prog_3 : prog[3]? = some PinnedIR.fn3 := rfl
private theorem prog_4 : prog[4]? = some PinnedIR.fn4 := rfl
private theorem prog_9 : prog[9]? = some PinnedIR.fn9 := rfl
private theorem prog_10 : prog[10]? = some PinnedIR.fn10 := rfl
private theorem prog_11 : prog[11]? = some PinnedIR.fn11 := rfl
private theorem prog_12 : prog[12]? = some PinnedIR.fn12 := rfl

theorem ir_writeScalar (ext : Ext O) (e : Endian) (w n : Nat) (buf : Bytes) (lf k : Nat) (hk : 1 ≤ k) :
    runFn ext prog lf k (ixWScalar e) [.u w] [natV n] buf = .ret [.err false] (buf ++ writeScalar w e n) := by
  rw [runFn_body ext (body := .seq (.binWrite (.order e) (.param 0) (.var 0) (some 1)) (.ret [.var 1]))
    (by cases e <;> rfl) hk]
  simp only [goir, natV, Int.ofNat_eq_natCast, wrap_u_nat, Int.toNat_natCast, toE_mod, writeScalar]

theorem ir_readScalar (ext : Ext O) (e : Endian) (w : Nat) (buf : Bytes) (lf k : Nat) (hk : 1 ≤ k) :
    RSpec (runFn ext prog lf k (ixRScalar e) [.u w] [] buf) natV (readScalar w e buf) := by
  rw [runFn_body ext
    (body := .seq (.set 0 (.int 0)) (.seq (.binRead (.order e) (.param 0) 0 (some 1)) (.ret [.var 0, .var 1])))
    (by cases e <;> rfl) hk, readScalar_eq]
  by_cases h : w ≤ buf.length
  · simp only [goir, Nat.reduceEqDiff, h, RSpec.ok_iff, natV, Int.ofNat_eq_natCast, wrap_u_of_lt (ofE_take_lt e h)]
  · simp only [goir, Nat.reduceEqDiff, h, RSpec.err_iff]
    exact ⟨_, _, rfl⟩

/-- the guard of `writeLen`: `uint64(n) > uint64(^T(0))` -/
private theorem writeLen_guard (w n : Nat) (hw : w ≤ 8) (hn : n < 2 ^ 63) :
    cop .gt ((Ty.u 8).wrap (n : Int)) ((Ty.u 8).wrap (((256 ^ w : Nat) : Int) - 1)) = !decide (n < 256 ^ w) := by
  have h1 := pow256_le hw
  have h2 : 0 < 256 ^ w := Nat.pow_pos (by decide)
  have h3 := pow256_eight
  have hm : (((256 ^ w : Nat) : Int) - 1) = ((256 ^ w - 1 : Nat) : Int) := by omega
  rw [hm, wrap_u_of_lt (by omega), wrap_u_of_lt (by omega)]
  have hiff : (256 ^ w - 1 < n) ↔ ¬ n < 256 ^ w := by omega
  simp only [cop, gt_iff_lt, Int.ofNat_lt, hiff, decide_not]

theorem ir_writeLen (ext : Ext O) (e : Endian) (w n : Nat) (hw : w ≤ 8) (hn : n < 2 ^ 63) (buf : Bytes) (lf k : Nat)
    (hk : 1 ≤ k) :
    WSpec (runFn ext prog lf k ixWriteLen [.u w] [.order e, natV n] buf) buf (writeLen w e n) := by
  rw [ixWriteLen, runFn_pos ext prog_4 hk, writeLen]
  by_cases h : n < 256 ^ w
  · simp only [PinnedIR.fn4, goir, natV, Int.ofNat_eq_natCast, writeLen_guard w n hw hn, h, decide_true,
      Bool.not_true, wrap_u_of_lt h, Int.toNat_natCast, WSpec.ok_iff]
  · simp only [PinnedIR.fn4, goir, natV, Int.ofNat_eq_natCast, writeLen_guard w n hw hn, h, decide_false,
      Bool.not_false, WSpec.err_iff]
    exact ⟨_, rfl⟩

theorem ir_writeVstr (ext : Ext O) (e : Endian) (pw : Nat) (s : Bytes) (hw : pw ≤ 8) (hs : s.length < 2 ^ 63)
    (buf : Bytes) (lf k : Nat) (hk : 2 ≤ k) :
    WSpec (runFn ext prog lf k (ixWVstr e) [.u pw] [.bytes s] buf) buf (writeVstr pw e s) := by
  rw [runFn_body ext (body :=
      .seq (.seq (.call ixWriteLen [.param 0] [.order e, .len (.var 0)] [some 1]) (.ite (.cmp .ne (.var 1) .nilErr) (.ret [.var 1]) .skip))
        (.seq (.seq (.bufWrite (.var 0) none (some 2)) (.ite (.cmp .ne (.var 2) .nilErr) (.ret [.var 2]) .skip))
          (.ret [.nilErr])))
    (by cases e <;> rfl) (by omega), writeVstr, Outcome.map_eq_bind]
  refine wspec_of_sim (Sim.seq
    (Sim.callW rfl rfl (ir_writeLen ext e pw s.length hw hs buf lf (k - 1) (by omega))) ?_)
  rintro c _ rfl
  simp only [goir, Nat.reduceEqDiff, List.append_assoc]

/-- `ReadString` after the prefix: `length := int(t); if length > buf.Len() {…}; b := make([]byte, length);
    _, err := io.ReadFull(buf, b); return string(b), err` -/
local notation "readStrTail" =>
  (Stmt.seq (Stmt.set 2 (Expr.conv (TyRef.ty (Ty.s 8)) (Expr.var 0)))
  (Stmt.seq (Stmt.ite (Expr.cmp COp.gt (Expr.var 2) Expr.bufLen) (Stmt.ret [Expr.emptyStr, Expr.newErr]) Stmt.skip)
  (Stmt.seq (Stmt.makeBytes 3 (Expr.var 2))
  (Stmt.seq (Stmt.readFull 3 none (some 4))
  (Stmt.ret [Expr.toStr (Expr.var 3), Expr.var 4])))))

private theorem fn11_body : PinnedIR.fn11.body =
    .seq (.set 0 (.int 0))
      (.seq (.seq (.binRead (.order .be) (.param 0) 0 (some 1))
        (.ite (.cmp .ne (.var 1) .nilErr) (.ret [.emptyStr, (.var 1)]) .skip)) readStrTail) := rfl

private theorem fn12_body : PinnedIR.fn12.body =
    .seq (.set 0 (.int 0))
      (.seq (.seq (.binRead (.order .le) (.param 0) 0 (some 1))
        (.ite (.cmp .ne (.var 1) .nilErr) (.ret [.emptyStr, (.var 1)]) .skip)) readStrTail) := rfl

theorem ir_readVstr (ext : Ext O) (e : Endian) (pw : Nat) (hw : pw ≤ 8) (buf : Bytes) (lf k : Nat) (hk : 1 ≤ k) :
    RSpec (runFn ext prog lf k (ixRVstr e) [.u pw] [] buf) V.bytes (readVstr pw e buf) := by
  rw [runFn_body ext (body :=
      .seq (.set 0 (.int 0))
        (.seq (.seq (.binRead (.order e) (.param 0) 0 (some 1))
          (.ite (.cmp .ne (.var 1) .nilErr) (.ret [.emptyStr, (.var 1)]) .skip)) readStrTail))
    (by cases e <;> rfl) hk]
  refine rspec_of_sim (Sim.readText rfl hw e (evalE.emptyStr _) fun n b hb => ?_)
  simp only [goir, Nat.reduceEqDiff, List.length_replicate, hb]

end FinProto.GoIR
