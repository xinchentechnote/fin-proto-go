/-
  C09 (decoding takes time linear in the input) and C10 (allocation is proportional to the input; no single
  request is driven by a length or count read from the wire alone) for the instrumented decoder of `Cost.lean`.
  Three predicates on cost readers: `Cons m` (a success consumes at least `m` bytes), `MR M K` (no single request
  exceeds `M ×` the bytes present `+ K`), `Lin p q A D` (the weighted cost is linear in the bytes consumed), each
  with a closure lemma for every combinator, the body of `readListC` apart: `MR` bounds the capacity request in the
  form it has there (`mr_reqRC_min`), and `Lin` has no lemma for `reqRC` or `decRepC` alone, it bounds request and
  loop together (`lin_listBody`, from `decRepC_pot`: the cost of the loop with its iteration count).
-/
import FinProto.Cost
import FinProto.Props.SideConds
import FinProto.Props.PinnedFacts
import FinProto.Props.ValEq
namespace FinProto

namespace Cost
@[simp] theorem add_steps (a b : Cost) : (a + b).steps = a.steps + b.steps := rfl
@[simp] theorem add_alloc (a b : Cost) : (a + b).alloc = a.alloc + b.alloc := rfl
@[simp] theorem add_maxReq (a b : Cost) : (a + b).maxReq = max a.maxReq b.maxReq := rfl
@[simp] theorem zero_steps : zero.steps = 0 := rfl
@[simp] theorem zero_alloc : zero.alloc = 0 := rfl
@[simp] theorem zero_maxReq : zero.maxReq = 0 := rfl

theorem add_zero (c : Cost) : c + zero = c :=
  congrArg (Cost.mk c.steps c.alloc) (Nat.max_zero c.maxReq)

/-- `(p, q) = (1, 0)` is time, `(0, 1)` is memory -/
def wt (p q : Nat) (c : Cost) : Nat := p * c.steps + q * c.alloc

theorem wt_add (p q : Nat) (a b : Cost) : (a + b).wt p q = a.wt p q + b.wt p q := by
  simp only [wt, add_steps, add_alloc, Nat.mul_add]
  omega
@[simp] theorem wt_zero (p q : Nat) : zero.wt p q = 0 := by simp [wt]
@[simp] theorem wt_step (p q : Nat) : step.wt p q = p := by simp [wt, step]
@[simp] theorem wt_req (p q n : Nat) : (req n).wt p q = q * n := by simp [wt, req]
@[simp] theorem wt_read (p q n : Nat) : (read n).wt p q = p + q * n := by simp [wt, read]
theorem wt_one_zero (c : Cost) : c.wt 1 0 = c.steps := by simp [wt]
theorem wt_zero_one (c : Cost) : c.wt 0 1 = c.alloc := by simp [wt]
end Cost

@[simp] theorem pureRC_apply (a : α) (b : Bytes) : pureRC a b = (.ok (a, b), Cost.zero) := rfl
@[simp] theorem failRC_apply (b : Bytes) : (failRC : RC α) b = (.err, Cost.zero) := rfl
@[simp] theorem panicRC_apply (b : Bytes) : (panicRC : RC α) b = (.panic, Cost.zero) := rfl

theorem chargeRC_apply (c : Cost) (r : RC α) (b : Bytes) : chargeRC c r b = ((r b).1, c + (r b).2) := rfl

theorem bindRC_apply (r : RC α) (f : α → RC β) (b : Bytes) :
    bindRC r f b = match (r b).1 with
      | .ok p => ((f p.1 p.2).1, (r b).2 + (f p.1 p.2).2)
      | .err => (.err, (r b).2)
      | .panic => (.panic, (r b).2) := by
  unfold bindRC
  rcases r b with ⟨_ | _ | _, c⟩ <;> rfl

theorem mapRC_apply (g : α → β) (r : RC α) (b : Bytes) :
    mapRC g r b = ((r b).1.map (fun p => (g p.1, p.2)), (r b).2) := by
  unfold mapRC
  rw [bindRC_apply]
  cases (r b).1 with
  | ok p => exact congrArg (Prod.mk _) (Cost.add_zero _)
  | _ => rfl

theorem takeNC_apply (n : Nat) (b : Bytes) : takeNC n b = (takeN n b, Cost.read n) := rfl

theorem takeAvailC_apply (n : Nat) (b : Bytes) :
    takeAvailC n b = if n ≤ b.length then (.ok (b.take n, b.drop n), Cost.read n) else (.err, Cost.step) := by
  simp only [takeAvailC, splitN_eq]
  by_cases h : n ≤ b.length <;> simp only [h, if_true, if_false]

theorem reqRC_apply (g : Nat → Nat) (b : Bytes) : reqRC g b = (.ok ((), b), Cost.req (g b.length)) := rfl

theorem optRC_cases {P : RC β → Prop} {o : Option α} {k : α → RC β} (hn : P (chargeRC Cost.step failRC))
    (hs : ∀ a, o = some a → P (chargeRC Cost.step (k a))) : P (optRC o k) := by
  cases o with
  | none => exact hn
  | some a => exact hs a rfl

theorem lenGuardC_cases {P : RC α → Prop} (n : Nat) {k : RC α} (hk : P k) (hp : P panicRC) :
    P (lenGuardC n k) := by
  unfold lenGuardC
  split
  · exact hk
  · exact hp

def RC.erase (rc : RC α) : R α := fun b => (rc b).1

theorem RC.erase_apply (rc : RC α) (b : Bytes) : rc.erase b = (rc b).1 := rfl

theorem erase_pureRC (a : α) : (pureRC a).erase = pureR a := rfl
theorem erase_failRC : (failRC : RC α).erase = failR := rfl
theorem erase_panicRC : (panicRC : RC α).erase = panicR := rfl
theorem erase_chargeRC (c : Cost) (r : RC α) : (chargeRC c r).erase = r.erase := rfl
theorem erase_bindRC (r : RC α) (f : α → RC β) :
    (bindRC r f).erase = bindR r.erase (fun a => (f a).erase) := by
  funext b
  simp only [RC.erase_apply, bindR, bindRC_apply]
  cases (r b).1 <;> rfl
theorem erase_mapRC (g : α → β) (r : RC α) : (mapRC g r).erase = mapR g r.erase := erase_bindRC ..
theorem erase_takeNC (n : Nat) : (takeNC n).erase = takeN n := rfl
theorem erase_takeAvailC (n : Nat) : (takeAvailC n).erase = takeN n := by
  funext b
  rw [RC.erase_apply, takeAvailC_apply, takeN_eq]
  split <;> rfl
theorem erase_reqRC (g : Nat → Nat) : (reqRC g).erase = pureR () := rfl
theorem erase_optRC (o : Option α) (k : α → RC β) : (optRC o k).erase = optR o (fun a => (k a).erase) := by
  cases o <;> rfl
theorem erase_lenGuardC (n : Nat) (k : RC α) : (lenGuardC n k).erase = lenGuard n k.erase := by
  unfold lenGuardC lenGuard
  split <;> rfl
theorem erase_decRepC (e : RC α) : ∀ n, (decRepC e n).erase = decRep e.erase n
  | 0 => rfl
  | n+1 => by simp only [decRepC, decRep, erase_chargeRC, erase_bindRC, erase_mapRC, erase_decRepC e n]

theorem bindRC_fst_eq_ok {r : RC α} {f : α → RC β} {b : Bytes} {v : β} {rest : Bytes}
    (h : (bindRC r f b).1 = .ok (v, rest)) :
    ∃ a b', (r b).1 = .ok (a, b') ∧ (f a b').1 = .ok (v, rest) := by
  rw [← RC.erase_apply, erase_bindRC] at h
  exact bindR_eq_ok.mp h

theorem mapRC_fst_eq_ok {r : RC α} {g : α → β} {b : Bytes} {v : β} {rest : Bytes}
    (h : (mapRC g r b).1 = .ok (v, rest)) : ∃ a, (r b).1 = .ok (a, rest) ∧ g a = v := by
  rw [← RC.erase_apply, erase_mapRC] at h
  exact mapR_eq_ok.mp h

theorem erase_decSeqC (st : List Val → Op → RC Val) :
    ∀ ops acc, (decSeqC st ops acc).erase = decSeq (fun acc op => (st acc op).erase) ops acc
  | [], _ => rfl
  | op :: ops, acc => by simp only [decSeqC, decSeq, erase_bindRC, erase_decSeqC st ops]

theorem erase_readScalarC (w : Nat) (e : Endian) : (readScalarC w e).erase = readScalar w e := by
  rw [readScalarC, readScalar, erase_mapRC, erase_takeNC]

theorem erase_readFixedC (n : Nat) (pad : UInt8) (left : Bool) :
    (readFixedC n pad left).erase = readFixed n pad left := by
  rw [readFixedC, readFixed, erase_mapRC, erase_takeNC]

theorem erase_readVstrC (pw : Nat) (e : Endian) : (readVstrC pw e).erase = readVstr pw e := by
  simp only [readVstrC, readVstr, erase_bindRC, erase_readScalarC, erase_lenGuardC, erase_takeAvailC]

/-- `readListC` has a bind that `readList` lacks, the capacity request in front of the loop: its outcome is
    `pureR ()` (`erase_reqRC`), and `bindR (pureR ()) k = k ()` (`pureR_bindR`) -/
theorem erase_readListC (cw : Nat) (e : Endian) (esz : Nat) (elem : RC α) :
    (readListC cw e esz elem).erase = readList cw e elem.erase := by
  simp only [readListC, readList, erase_bindRC, erase_readScalarC, erase_lenGuardC, erase_reqRC, pureR_bindR,
    erase_decRepC]

theorem erase_newObjC (objSize : Nat → Nat) (dC : Nat → RC Val) (ty : Nat) :
    (newObjC objSize dC ty).erase = (dC ty).erase :=
  erase_chargeRC ..

theorem erase_decOpC (env : Env) (objSize : Nat → Nat) (dC : Nat → RC Val) (acc : List Val) (op : Op) :
    (decOpC env objSize dC acc op).erase = decOp env (fun ty => (dC ty).erase) acc op := by
  cases op with
  | scalar w e => simp only [decOpC, decOp, erase_mapRC, erase_readScalarC]
  | fixed n pad left => simp only [decOpC, decOp, erase_mapRC, erase_readFixedC]
  | vstr pw e => simp only [decOpC, decOp, erase_mapRC, erase_readVstrC]
  | nums cw w e => simp only [decOpC, decOp, readNumsC, readNums, erase_mapRC, erase_readListC, erase_readScalarC]
  | fixeds cw n pad left e =>
    simp only [decOpC, decOp, readFixedsC, readFixeds, erase_mapRC, erase_readListC, erase_readFixedC]
  | vstrs cw pw e => simp only [decOpC, decOp, readVstrsC, readVstrs, erase_mapRC, erase_readListC, erase_readVstrC]
  | nested ty g => simp only [decOpC, decOp, erase_newObjC]
  | objs cw ty e => simp only [decOpC, decOp, erase_mapRC, erase_readListC, erase_newObjC]
  | union key tbl g => simp only [decOpC, decOp, erase_optRC, erase_newObjC]
  | «opaque» => rfl

theorem erase_decTyC (env : Env) (objSize : Nat → Nat) : ∀ f ty, (decTyC env objSize f ty).erase = decTy env f ty
  | 0, _ => rfl
  | f+1, ty => by
    simp only [decTyC, decTy, erase_optRC, erase_mapRC, erase_decSeqC, erase_decOpC, erase_decTyC env objSize f]

/-- The projection C09 and C10 rest on: next to its cost record the instrumented decoder returns what the plain
    decoder returns. -/
theorem decTyC_fst (env : Env) (objSize : Nat → Nat) :
    ∀ f ty b, (decTyC env objSize f ty b).1 = decTy env f ty b :=
  fun f ty b => by rw [← RC.erase_apply, erase_decTyC]

theorem decodeC_fst (env : Env) (objSize : Nat → Nat) (ty : Nat) (b : Bytes) :
    (decodeC env objSize ty b).1 = decode env ty b :=
  decTyC_fst env objSize env.fuel ty b

def Cons (m : Nat) (rc : RC α) : Prop := ∀ b v r, (rc b).1 = .ok (v, r) → r.length + m ≤ b.length

theorem Cons.mono {m m' : Nat} {rc : RC α} (h : Cons m rc) (hm : m' ≤ m) : Cons m' rc := by
  intro b v r hr
  have := h b v r hr
  omega

theorem Cons.zero {m : Nat} {rc : RC α} (h : Cons m rc) : Cons 0 rc := h.mono (Nat.zero_le m)

theorem cons_pureRC (a : α) : Cons 0 (pureRC a) := by
  intro b v r h
  cases h
  exact Nat.le_refl _

theorem cons_failRC (m : Nat) : Cons m (failRC : RC α) := fun _ _ _ => nofun

theorem cons_panicRC (m : Nat) : Cons m (panicRC : RC α) := fun _ _ _ => nofun

theorem cons_chargeRC (c : Cost) {m : Nat} {rc : RC α} (h : Cons m rc) : Cons m (chargeRC c rc) :=
  fun b => h b

theorem cons_bindRC {m1 m2 : Nat} {rc : RC α} {f : α → RC β} (h1 : Cons m1 rc) (h2 : ∀ a, Cons m2 (f a)) :
    Cons (m1 + m2) (bindRC rc f) := by
  intro b v r h
  obtain ⟨a, b', ha, hf⟩ := bindRC_fst_eq_ok h
  have := h1 _ _ _ ha
  have := h2 a _ _ _ hf
  omega

theorem cons_mapRC (g : α → β) {m : Nat} {rc : RC α} (h : Cons m rc) : Cons m (mapRC g rc) :=
  cons_bindRC h (fun a => cons_pureRC (g a))

theorem cons_takeNC (n : Nat) : Cons n (takeNC n) := by
  intro b v r h
  obtain ⟨rfl, rfl⟩ := takeN_eq_ok_append.mp h
  rw [List.length_append]
  omega

theorem cons_takeAvailC (n : Nat) : Cons n (takeAvailC n) := by
  intro b v r h
  rw [← RC.erase_apply, erase_takeAvailC] at h
  exact cons_takeNC n b v r h

-- by unfolding: the outcome of `reqRC g` is that of `pureRC ()`
theorem cons_reqRC (g : Nat → Nat) : Cons 0 (reqRC g) := cons_pureRC ()

theorem cons_decRepC {m : Nat} {elem : RC α} (h : Cons m elem) : ∀ n, Cons (n * m) (decRepC elem n)
  | 0 => by
    rw [Nat.zero_mul]
    exact cons_pureRC _
  | n+1 => by
    rw [Nat.succ_mul, Nat.add_comm]
    exact cons_chargeRC _ (cons_bindRC h (fun _ => cons_mapRC _ (cons_decRepC h n)))

theorem cons_optRC {m : Nat} {o : Option α} {k : α → RC β} (h : ∀ a, o = some a → Cons m (k a)) :
    Cons m (optRC o k) :=
  optRC_cases (cons_chargeRC _ (cons_failRC m)) (fun a ha => cons_chargeRC _ (h a ha))

theorem cons_lenGuardC {m : Nat} (n : Nat) {k : RC α} (h : Cons m k) : Cons m (lenGuardC n k) :=
  lenGuardC_cases n h (cons_panicRC m)

theorem cons_readScalarC (w : Nat) (e : Endian) : Cons w (readScalarC w e) := cons_mapRC _ (cons_takeNC w)

theorem cons_readFixedC (n : Nat) (pad : UInt8) (left : Bool) : Cons n (readFixedC n pad left) :=
  cons_mapRC _ (cons_takeNC n)

theorem cons_readVstrC (pw : Nat) (e : Endian) : Cons pw (readVstrC pw e) :=
  cons_bindRC (m2 := 0) (cons_readScalarC pw e) (fun len => cons_lenGuardC len (cons_takeAvailC len).zero)

theorem cons_listBody {m : Nat} {elem : RC α} (h : Cons m elem) (g : Nat → Nat) (n : Nat) :
    Cons 0 (bindRC (reqRC g) (fun _ => decRepC elem n)) :=
  cons_bindRC (m1 := 0) (m2 := 0) (cons_reqRC g) (fun _ => (cons_decRepC h n).zero)

theorem cons_readListC (cw : Nat) (e : Endian) (esz : Nat) {m : Nat} {elem : RC α} (h : Cons m elem) :
    Cons cw (readListC cw e esz elem) :=
  cons_bindRC (m2 := 0) (cons_readScalarC cw e) (fun count => cons_lenGuardC count (cons_listBody h _ count))

theorem cons_newObjC (objSize : Nat → Nat) {dC : Nat → RC Val} {m ty : Nat} (h : Cons m (dC ty)) :
    Cons m (newObjC objSize dC ty) :=
  cons_chargeRC _ h

theorem cons_decOpC (env : Env) (objSize : Nat → Nat) {dC : Nat → RC Val} {mT : Nat → Nat}
    (h : ∀ ty, Cons (mT ty) (dC ty)) (acc : List Val) (op : Op) :
    Cons (minSizeOp mT op) (decOpC env objSize dC acc op) := by
  cases op with
  | scalar w e => exact cons_mapRC _ (cons_readScalarC w e)
  | fixed n pad left => exact cons_mapRC _ (cons_readFixedC n _ left)
  | vstr pw e => exact cons_mapRC _ (cons_readVstrC pw e)
  | nums cw w e => exact cons_mapRC _ (cons_readListC cw e w (cons_readScalarC w e))
  | fixeds cw n pad left e => exact cons_mapRC _ (cons_readListC cw e 16 (cons_readFixedC n _ left))
  | vstrs cw pw e => exact cons_mapRC _ (cons_readListC cw e 16 (cons_readVstrC pw e))
  | nested ty g => exact cons_newObjC objSize (h ty)
  | objs cw ty e => exact cons_mapRC _ (cons_readListC cw e 8 (cons_newObjC objSize (h ty)))
  | union key tbl g => exact cons_optRC (fun ty _ => (cons_newObjC objSize (h ty)).zero)
  | «opaque» => exact cons_failRC _

theorem cons_decSeqC {step : List Val → Op → RC Val} {ms : Op → Nat}
    (h : ∀ acc op, Cons (ms op) (step acc op)) :
    ∀ ops acc, Cons ((ops.map ms).sum) (decSeqC step ops acc)
  | [], acc => cons_pureRC acc
  | op :: ops, acc => by
    rw [List.map_cons, List.sum_cons]
    exact cons_bindRC (h acc op) (fun v => cons_decSeqC h ops (acc ++ [v]))

/-- for EVERY fuel `f'` of the size computation, whatever fuel `f` the decoder runs with: `Env.elemsOK` is
    stated with `env.fuel`, the bounds for every `f` -/
theorem cons_decTyC (env : Env) (objSize : Nat → Nat) :
    ∀ f ty f', Cons (minSizeTy env f' ty) (decTyC env objSize f ty)
  | 0, _, _ => cons_failRC _
  | f+1, ty, f' => cons_optRC (fun td htd => by
    have key := fun k => cons_mapRC (Val.msg ty) (cons_decSeqC
      (fun acc op => cons_decOpC env objSize (fun ty' => cons_decTyC env objSize f ty' k) acc op) td.dec [])
    cases f' with
    | zero => exact (key 0).zero
    | succ k =>
      simp only [minSizeTy, htd]
      exact key k)

theorem cons0_decTyC (env : Env) (objSize : Nat → Nat) (f ty : Nat) : Cons 0 (decTyC env objSize f ty) :=
  cons_decTyC env objSize f ty 0

def listMax (l : List Nat) : Nat := l.foldr max 0

@[simp] theorem listMax_nil : listMax [] = 0 := rfl
@[simp] theorem listMax_cons (x : Nat) (l : List Nat) : listMax (x :: l) = max x (listMax l) := rfl

theorem listMax_le_iff {l : List Nat} {k : Nat} : listMax l ≤ k ↔ ∀ x ∈ l, x ≤ k := by
  induction l with
  | nil => exact ⟨fun _ _ => nofun, fun _ => Nat.zero_le k⟩
  | cons y ys ih => rw [listMax_cons, Nat.max_le, ih, List.forall_mem_cons]

theorem listMax_map_le {γ : Type} {g : γ → Nat} {l : List γ} {k : Nat} (h : ∀ a ∈ l, g a ≤ k) :
    listMax (l.map g) ≤ k :=
  listMax_le_iff.mpr (List.forall_mem_map.mpr h)

theorem le_listMax_map {γ : Type} (g : γ → Nat) {a : γ} {l : List γ} (h : a ∈ l) : g a ≤ listMax (l.map g) :=
  listMax_le_iff.mp (Nat.le_refl _) _ (List.mem_map_of_mem h)

def Env.tableEntries (env : Env) (tbl : Nat) : List (Key × Nat) := (env.tables[tbl]?).getD []

theorem Env.tableEntries_eq {env : Env} {tbl : Nat} {tb : List (Key × Nat)} (h : env.tables[tbl]? = some tb) :
    env.tableEntries tbl = tb := by
  rw [Env.tableEntries, h]
  rfl

/-- the constant part of the largest request an op can make: its fixed width / prefix width / the
    struct sizes of the objects it constructs -/
def Op.reqConst (env : Env) (objSize : Nat → Nat) : Op → Nat
  | .scalar w _ => w
  | .fixed n _ _ => n
  | .vstr pw _ => pw
  | .nums cw w _ => max cw w
  | .fixeds cw n _ _ _ => max cw n
  | .vstrs cw pw _ => max cw pw
  | .nested ty _ => objSize ty
  | .objs cw ty _ => max cw (objSize ty)
  | .union _ tbl _ => listMax ((env.tableEntries tbl).map (fun kv => objSize kv.2))
  | .opaque => 0

/-- `K` of C10, a constant of the schema: the largest fixed width, scalar / prefix width or struct size of a
    constructible type -/
def maxConst (env : Env) (objSize : Nat → Nat) : Nat :=
  listMax (env.types.map (fun td => listMax (td.dec.map (Op.reqConst env objSize))))

/-- bytes per slot of a numeric list (the only slot size that is not an absolute constant) -/
def Op.numW : Op → Nat
  | .nums _ w _ => w
  | _ => 0

/-- largest slot size of any list in the schema (16 = string header) -/
def maxSlot (env : Env) : Nat :=
  max 16 (listMax (env.types.map (fun td => listMax (td.dec.map Op.numW))))

def MR (M K : Nat) (rc : RC α) : Prop :=
  Cons 0 rc ∧ ∀ b, (rc b).2.maxReq ≤ M * b.length + K

theorem MR.mono {M K K' : Nat} {rc : RC α} (h : MR M K rc) (hK : K ≤ K') : MR M K' rc :=
  ⟨h.1, fun b => Nat.le_trans (h.2 b) (Nat.add_le_add_left hK _)⟩

theorem mr_pureRC (M K : Nat) (a : α) : MR M K (pureRC a) := ⟨cons_pureRC a, fun _ => Nat.zero_le _⟩

theorem mr_failRC (M K : Nat) : MR M K (failRC : RC α) := ⟨cons_failRC 0, fun _ => Nat.zero_le _⟩

theorem mr_panicRC (M K : Nat) : MR M K (panicRC : RC α) := ⟨cons_panicRC 0, fun _ => Nat.zero_le _⟩

theorem mr_chargeRC {M K : Nat} {c : Cost} {rc : RC α} (hc : c.maxReq ≤ K) (h : MR M K rc) :
    MR M K (chargeRC c rc) :=
  ⟨cons_chargeRC c h.1, fun b => Nat.max_le.mpr ⟨Nat.le_trans hc (Nat.le_add_left _ _), h.2 b⟩⟩

/-- why `MR` carries `Cons 0`: the continuation is bounded in the bytes IT is given, which are no more than the
    first reader was given -/
theorem mr_bindRC {M K : Nat} {rc : RC α} {f : α → RC β} (h1 : MR M K rc) (h2 : ∀ a, MR M K (f a)) :
    MR M K (bindRC rc f) := by
  refine ⟨cons_bindRC (m1 := 0) (m2 := 0) h1.1 (fun a => (h2 a).1), fun b => ?_⟩
  have g1 := h1.2 b
  cases hr : (rc b).1 with
  | ok p =>
    rw [bindRC_apply, hr]
    exact Nat.max_le.mpr ⟨g1, Nat.le_trans ((h2 p.1).2 p.2)
      (Nat.add_le_add_right (Nat.mul_le_mul_left M (h1.1 b p.1 p.2 hr)) K)⟩
  | _ =>
    rw [bindRC_apply, hr]
    exact g1

theorem mr_mapRC {M K : Nat} (g : α → β) {rc : RC α} (h : MR M K rc) : MR M K (mapRC g rc) :=
  mr_bindRC h (fun a => mr_pureRC M K (g a))

theorem mr_takeNC {M K n : Nat} (h : n ≤ K) : MR M K (takeNC n) :=
  ⟨(cons_takeNC n).zero, fun _ => Nat.le_trans h (Nat.le_add_left _ _)⟩

/-- the repaired `readVstr`: the request is bounded by the bytes PRESENT, whatever the prefix says -/
theorem mr_takeAvailC {M : Nat} (K : Nat) (hM : 1 ≤ M) (n : Nat) : MR M K (takeAvailC n) :=
  ⟨(cons_takeAvailC n).zero, fun b => by
    rw [takeAvailC_apply]
    split
    · rename_i hn
      exact Nat.le_trans hn (Nat.le_trans (Nat.le_mul_of_pos_left _ hM) (Nat.le_add_right _ _))
    · exact Nat.zero_le _⟩

theorem mr_decRepC {M K : Nat} {elem : RC α} (h : MR M K elem) : ∀ n, MR M K (decRepC elem n)
  | 0 => mr_pureRC M K _
  | n+1 => mr_chargeRC (Nat.zero_le _) (mr_bindRC h (fun _ => mr_mapRC _ (mr_decRepC h n)))

theorem mr_optRC_of {M K : Nat} {o : Option α} {k : α → RC β} (h : ∀ a, o = some a → MR M K (k a)) :
    MR M K (optRC o k) :=
  optRC_cases (mr_chargeRC (Nat.zero_le _) (mr_failRC M K)) (fun a ha => mr_chargeRC (Nat.zero_le _) (h a ha))

theorem mr_optRC {M K : Nat} {o : Option α} {k : α → RC β} (h : ∀ a, MR M K (k a)) : MR M K (optRC o k) :=
  mr_optRC_of (fun a _ => h a)

theorem mr_lenGuardC {M K : Nat} (n : Nat) {k : RC α} (h : MR M K k) : MR M K (lenGuardC n k) :=
  lenGuardC_cases n h (mr_panicRC M K)

theorem mr_readScalarC {M K w : Nat} (h : w ≤ K) (e : Endian) : MR M K (readScalarC w e) :=
  mr_mapRC _ (mr_takeNC h)

theorem mr_readFixedC {M K n : Nat} (h : n ≤ K) (pad : UInt8) (left : Bool) : MR M K (readFixedC n pad left) :=
  mr_mapRC _ (mr_takeNC h)

theorem mr_readVstrC {M K pw : Nat} (hM : 1 ≤ M) (h : pw ≤ K) (e : Endian) : MR M K (readVstrC pw e) :=
  mr_bindRC (mr_readScalarC h e) (fun len => mr_lenGuardC len (mr_takeAvailC K hM len))

/-- the repaired list readers: the capacity request is bounded by the bytes PRESENT times the slot
    size, whatever the count prefix says -/
theorem mr_reqRC_min {M : Nat} (K : Nat) {esz : Nat} (hM : esz ≤ M) (count : Nat) :
    MR M K (reqRC (fun rem => min count rem * esz)) :=
  ⟨cons_reqRC _, fun b => Nat.le_trans (Nat.mul_le_mul (Nat.min_le_right count b.length) hM)
    (Nat.mul_comm M _ ▸ Nat.le_add_right _ _)⟩

theorem mr_readListC {M K cw esz : Nat} (hM : esz ≤ M) (h : cw ≤ K) (e : Endian) {elem : RC α}
    (he : MR M K elem) : MR M K (readListC cw e esz elem) :=
  mr_bindRC (mr_readScalarC h e) (fun count => mr_lenGuardC count
    (mr_bindRC (mr_reqRC_min K hM count) (fun _ => mr_decRepC he count)))

theorem mr_newObjC {M K : Nat} {objSize : Nat → Nat} {dC : Nat → RC Val} {ty : Nat} (h : MR M K (dC ty))
    (hK : objSize ty ≤ K) : MR M K (newObjC objSize dC ty) :=
  mr_chargeRC hK h

/-- `16 ≤ M` covers the slots of string lists (16, a `string` header) and of object lists (8, a pointer); the
    slots of a numeric list are `op.numW` wide -/
theorem mr_decOpC {M K : Nat} (env : Env) (objSize : Nat → Nat) {dC : Nat → RC Val}
    (hM : 16 ≤ M) (h : ∀ ty, MR M K (dC ty)) (acc : List Val) {op : Op}
    (hw : op.numW ≤ M) (hK : op.reqConst env objSize ≤ K) :
    MR M K (decOpC env objSize dC acc op) := by
  have h1 : 1 ≤ M := Nat.le_trans (by decide) hM
  cases op with
  | scalar w e => exact mr_mapRC _ (mr_readScalarC hK e)
  | fixed n pad left => exact mr_mapRC _ (mr_readFixedC hK _ left)
  | vstr pw e => exact mr_mapRC _ (mr_readVstrC h1 hK e)
  | nums cw w e =>
    obtain ⟨hc, hx⟩ := Nat.max_le.mp hK
    exact mr_mapRC _ (mr_readListC hw hc e (mr_readScalarC hx e))
  | fixeds cw n pad left e =>
    obtain ⟨hc, hx⟩ := Nat.max_le.mp hK
    exact mr_mapRC _ (mr_readListC hM hc e (mr_readFixedC hx _ left))
  | vstrs cw pw e =>
    obtain ⟨hc, hx⟩ := Nat.max_le.mp hK
    exact mr_mapRC _ (mr_readListC hM hc e (mr_readVstrC h1 hx e))
  | nested ty g => exact mr_newObjC (h ty) hK
  | objs cw ty e =>
    obtain ⟨hc, hx⟩ := Nat.max_le.mp hK
    exact mr_mapRC _ (mr_readListC (Nat.le_trans (by decide) hM) hc e (mr_newObjC (h ty) hx))
  | union key tbl g =>
    refine mr_optRC_of (fun ty hu => ?_)
    obtain ⟨tb, k, htb, hm⟩ := unionTy_mem hu
    rw [Op.reqConst, Env.tableEntries_eq htb] at hK
    exact mr_newObjC (h ty) (Nat.le_trans (le_listMax_map (fun kv : Key × Nat => objSize kv.2) hm) hK)
  | «opaque» => exact mr_failRC M K

theorem mr_decSeqC {M K : Nat} {step : List Val → Op → RC Val} :
    ∀ (ops : List Op) (acc : List Val), (∀ acc, ∀ op ∈ ops, MR M K (step acc op)) →
      MR M K (decSeqC step ops acc)
  | [], acc, _ => mr_pureRC M K acc
  | op :: ops, acc, h =>
    mr_bindRC (h acc op (List.mem_cons_self ..))
      (fun v => mr_decSeqC ops (acc ++ [v]) (fun acc' op' hm => h acc' op' (List.mem_cons_of_mem _ hm)))

theorem le_listMax_dec {types : List TyDef} (g : Op → Nat) {td : TyDef} (hm : td ∈ types) {op : Op}
    (hop : op ∈ td.dec) : g op ≤ listMax (types.map (fun td => listMax (td.dec.map g))) :=
  Nat.le_trans (le_listMax_map g hop) (le_listMax_map (fun td : TyDef => listMax (td.dec.map g)) hm)

theorem reqConst_le_maxConst {env : Env} (objSize : Nat → Nat) {td : TyDef} (hm : td ∈ env.types)
    {op : Op} (hop : op ∈ td.dec) : op.reqConst env objSize ≤ maxConst env objSize :=
  le_listMax_dec (Op.reqConst env objSize) hm hop

theorem numW_le_maxSlot {env : Env} {td : TyDef} (hm : td ∈ env.types) {op : Op} (hop : op ∈ td.dec) :
    op.numW ≤ maxSlot env :=
  Nat.le_trans (le_listMax_dec Op.numW hm hop) (Nat.le_max_right _ _)

theorem mr_decTyC (env : Env) (objSize : Nat → Nat) :
    ∀ f ty, MR (maxSlot env) (maxConst env objSize) (decTyC env objSize f ty)
  | 0, _ => mr_failRC _ _
  | f+1, ty => mr_optRC_of (fun td htd => mr_mapRC (Val.msg ty) (mr_decSeqC td.dec [] (fun acc _ hop =>
      mr_decOpC env objSize (Nat.le_max_left _ _) (mr_decTyC env objSize f) acc
        (numW_le_maxSlot (Env.mem_types htd) hop) (reqConst_le_maxConst objSize (Env.mem_types htd) hop))))

/-- Request locality (C10) for EVERY environment, without the width hypothesis of `decTyC_maxReq`: the factor is
    the largest slot size of the schema. -/
theorem decTyC_maxReq_slot (env : Env) (objSize : Nat → Nat) (f ty : Nat) (b : Bytes) :
    (decTyC env objSize f ty b).2.maxReq ≤ maxSlot env * b.length + maxConst env objSize :=
  (mr_decTyC env objSize f ty).2 b

theorem Op.numW_le_of_widthsOK {op : Op} (h : op.widthsOK = true) : op.numW ≤ 8 := by
  cases op with
  | nums cw w e =>
    simp only [Op.widthsOK, Bool.and_eq_true, Bool.or_eq_true, beq_iff_eq] at h
    simp only [Op.numW]
    omega
  | _ => exact Nat.zero_le _

theorem maxSlot_of_widthsOK {env : Env} (hw : env.widthsOK = true) : maxSlot env = 16 :=
  Nat.max_eq_left (listMax_map_le fun _ hm =>
    let ⟨_, htd⟩ := List.getElem?_of_mem hm
    listMax_map_le fun op hop =>
      Nat.le_trans (Op.numW_le_of_widthsOK ((Env.widthsOK_at hw htd).1 op hop)) (by decide))

/-- Request locality (C10).  With the Go widths (numeric elements of at most 8 bytes) every
    single request is at most `16 ×` the bytes actually present plus the schema constant `maxConst`: a length
    or a count read from the wire never drives a request by itself. -/
theorem decTyC_maxReq {env : Env} (objSize : Nat → Nat) (hw : env.widthsOK = true) (f ty : Nat) (b : Bytes) :
    (decTyC env objSize f ty b).2.maxReq ≤ 16 * b.length + maxConst env objSize :=
  maxSlot_of_widthsOK hw ▸ decTyC_maxReq_slot env objSize f ty b

/-- Time (C09) and total allocation (C10) at once: the weighted cost of `rc` is at most `A ×` the bytes it
    CONSUMED `+ D` when it succeeds, and at most `A ×` the bytes PRESENT `+ D` when it fails.  Charging the slope
    `A` against consumed bytes is what makes loops add up linearly.  The proofs use the two clauses as ONE
    inequality (`Lin.pot`, `Lin.of_pot`), cost `+ A * resid ≤ A *` given `+ D`: `A ×` the unread bytes is a
    potential. -/
def Lin (p q A D : Nat) (rc : RC α) : Prop :=
  Cons 0 rc ∧ ∀ b, (rc b).2.wt p q ≤ A * b.length + D ∧
    ∀ v r, (rc b).1 = .ok (v, r) → (rc b).2.wt p q + A * r.length ≤ A * b.length + D

/-- the bytes handed on: none after a failure -/
def resid : Outcome (α × Bytes) → Nat
  | .ok p => p.2.length
  | _ => 0

@[simp] theorem resid_ok (v : α) (r : Bytes) : resid (.ok (v, r)) = r.length := rfl
@[simp] theorem resid_err : resid (.err : Outcome (α × Bytes)) = 0 := rfl

theorem resid_map (g : α → β) (o : Outcome (α × Bytes)) : resid (o.map fun p => (g p.1, p.2)) = resid o := by
  cases o <;> rfl

theorem Cons.resid_cases {m : Nat} {rc : RC α} (hc : Cons m rc) (b : Bytes) :
    resid (rc b).1 = 0 ∨ resid (rc b).1 + m ≤ b.length := by
  cases hr : (rc b).1 with
  | ok pr => exact .inr (hc b pr.1 pr.2 hr)
  | _ => exact .inl rfl

theorem Cons.resid_le {rc : RC α} (hc : Cons 0 rc) (b : Bytes) : resid (rc b).1 ≤ b.length :=
  (hc.resid_cases b).elim (fun h => h ▸ Nat.zero_le _) id

theorem Lin.pot {p q A D : Nat} {rc : RC α} (h : Lin p q A D rc) (b : Bytes) :
    (rc b).2.wt p q + A * resid (rc b).1 ≤ A * b.length + D := by
  cases hr : (rc b).1 with
  | ok pr => exact (h.2 b).2 pr.1 pr.2 hr
  | _ => exact (h.2 b).1

theorem Lin.of_pot {p q A D : Nat} {rc : RC α} (hc : Cons 0 rc)
    (h : ∀ b, (rc b).2.wt p q + A * resid (rc b).1 ≤ A * b.length + D) : Lin p q A D rc :=
  ⟨hc, fun b => ⟨Nat.le_trans (Nat.le_add_right _ _) (h b), fun v r hr => by
    have := h b
    rwa [hr] at this⟩⟩

/-- sequencing, about numbers: the first part pays `w1` out of the drop `y → x` of the potential, the second
    `w2` out of `x → z` -/
theorem pot_seq {w1 w2 x y z D1 D2 : Nat} (h1 : w1 + x ≤ y + D1) (h2 : w2 + z ≤ x + D2) :
    w1 + w2 + z ≤ y + (D1 + D2) := by omega

/-- one more iteration: `p` for the step, on top of the element's `D` -/
theorem pot_iter {p w z y D c : Nat} (h : w + z ≤ y + (D + c)) : p + w + z ≤ y + (D + p + c) := by
  omega

theorem Lin.mono {p q A D A' D' : Nat} {rc : RC α} (h : Lin p q A D rc) (hA : A ≤ A') (hD : D ≤ D') :
    Lin p q A' D' rc := by
  obtain ⟨k, rfl⟩ := Nat.exists_eq_add_of_le hA
  refine .of_pot h.1 (fun b => ?_)
  have := Nat.add_le_add (h.pot b) (Nat.mul_le_mul_left k (h.1.resid_le b))
  rw [Nat.add_mul, Nat.add_mul]
  omega

theorem lin_of_bound {p q D : Nat} (A : Nat) {rc : RC α} (hc : Cons 0 rc) (h : ∀ b, (rc b).2.wt p q ≤ D) :
    Lin p q A D rc :=
  .of_pot hc (fun b => Nat.add_comm .. ▸ Nat.add_le_add (Nat.mul_le_mul_left A (hc.resid_le b)) (h b))

theorem lin_pureRC (p q A D : Nat) (a : α) : Lin p q A D (pureRC a) :=
  lin_of_bound A (cons_pureRC a) (fun _ => Nat.zero_le _)

theorem lin_failRC (p q A D : Nat) : Lin p q A D (failRC : RC α) :=
  lin_of_bound A (cons_failRC 0) (fun _ => Nat.zero_le _)

theorem lin_panicRC (p q A D : Nat) : Lin p q A D (panicRC : RC α) :=
  lin_of_bound A (cons_panicRC 0) (fun _ => Nat.zero_le _)

theorem lin_chargeRC {p q A D w : Nat} {c : Cost} {rc : RC α} (hc : c.wt p q ≤ w) (h : Lin p q A D rc) :
    Lin p q A (w + D) (chargeRC c rc) :=
  .of_pot (cons_chargeRC c h.1) (fun b => by
    rw [chargeRC_apply, Cost.wt_add, Nat.add_assoc, Nat.add_left_comm _ w]
    exact Nat.add_le_add hc (h.pot b))

theorem lin_stepRC {p q A D : Nat} {rc : RC α} (h : Lin p q A D rc) : Lin p q A (p + D) (chargeRC Cost.step rc) :=
  lin_chargeRC (Nat.le_of_eq (Cost.wt_step p q)) h

theorem lin_bindRC {p q A D1 D2 : Nat} {rc : RC α} {f : α → RC β}
    (h1 : Lin p q A D1 rc) (h2 : ∀ a, Lin p q A D2 (f a)) : Lin p q A (D1 + D2) (bindRC rc f) := by
  refine .of_pot (cons_bindRC (m1 := 0) (m2 := 0) h1.1 (fun a => (h2 a).1)) (fun b => ?_)
  have g := h1.pot b
  cases hr : (rc b).1 with
  | ok pr =>
    rw [bindRC_apply, hr, Cost.wt_add]
    rw [hr] at g
    exact pot_seq g ((h2 pr.1).pot pr.2)
  | _ =>
    rw [bindRC_apply, hr]
    rw [hr] at g
    exact Nat.le_trans g (Nat.add_le_add_left (Nat.le_add_right D1 D2) _)

theorem lin_mapRC {p q A D : Nat} (g : α → β) {rc : RC α} (h : Lin p q A D rc) : Lin p q A D (mapRC g rc) :=
  lin_bindRC (D2 := 0) h (fun a => lin_pureRC p q A 0 (g a))

theorem lin_takeNC (p q A n : Nat) : Lin p q A (p + q * n) (takeNC n) :=
  lin_of_bound A (cons_takeNC n).zero (fun _ => Nat.le_of_eq (Cost.wt_read p q n))

/-- the guarded read pays `q` per byte CONSUMED and a constant otherwise -/
theorem lin_takeAvailC (p q n : Nat) : Lin p q q p (takeAvailC n) := by
  refine .of_pot (cons_takeAvailC n).zero (fun b => ?_)
  rw [takeAvailC_apply]
  split
  · rename_i hn
    simp only [Cost.wt_read, resid_ok, List.length_drop]
    rw [Nat.add_assoc, ← Nat.mul_add, Nat.add_sub_cancel' hn, Nat.add_comm]
    exact Nat.le_refl _
  · simp only [Cost.wt_step, resid_err, Nat.mul_zero, Nat.add_zero]
    exact Nat.le_add_left _ _

theorem lin_optRC_of {p q A D : Nat} {o : Option α} {k : α → RC β} (h : ∀ a, o = some a → Lin p q A D (k a)) :
    Lin p q A (p + D) (optRC o k) :=
  optRC_cases (lin_stepRC (lin_failRC p q A D)) (fun a ha => lin_stepRC (h a ha))

theorem lin_optRC {p q A D : Nat} {o : Option α} {k : α → RC β} (h : ∀ a, Lin p q A D (k a)) :
    Lin p q A (p + D) (optRC o k) :=
  lin_optRC_of (fun a _ => h a)

theorem lin_lenGuardC {p q A D : Nat} (n : Nat) {k : RC α} (h : Lin p q A D k) : Lin p q A D (lenGuardC n k) :=
  lenGuardC_cases n h (lin_panicRC p q A D)

/-- number of loop bodies `decRepC elem n` executes on `b` (the failing one included) -/
def repIters (elem : RC α) : Nat → Bytes → Nat
  | 0, _ => 0
  | n+1, b =>
    match (elem b).1 with
    | .ok pr => 1 + repIters elem n pr.2
    | _ => 1

/-- The loop lemma of C09: when each successful element consumes at least one byte, `decRepC elem n` performs
    at most `min n (rem + 1)` iterations, whatever count `n` was read from the wire. -/
theorem repIters_le {elem : RC α} (hs : Cons 1 elem) : ∀ n b, repIters elem n b ≤ min n (b.length + 1)
  | 0, b => Nat.zero_le _
  | n+1, b => by
    simp only [repIters]
    cases hr : (elem b).1 with
    | ok pr =>
      have ih := repIters_le hs n pr.2
      have hl := hs b pr.1 pr.2 hr
      simp only [Nat.le_min] at ih ⊢
      omega
    | _ => exact Nat.le_min.mpr ⟨Nat.le_add_left 1 n, Nat.le_add_left 1 _⟩

theorem decRepC_pot {p q A D : Nat} {elem : RC α} (he : Lin p q A D elem) :
    ∀ n b, (decRepC elem n b).2.wt p q + A * resid (decRepC elem n b).1 ≤
      A * b.length + repIters elem n b * (D + p)
  | 0, b => Nat.le_of_eq (by
    simp only [decRepC, pureRC_apply, Cost.wt_zero, repIters, Nat.zero_mul, Nat.add_zero, Nat.zero_add, resid_ok])
  | n+1, b => by
    have g := he.pot b
    simp only [decRepC, chargeRC_apply, repIters]
    cases hr : (elem b).1 with
    | ok pr =>
      rw [hr] at g
      rw [bindRC_apply, hr]
      simp only [Cost.wt_add, Cost.wt_step, mapRC_apply, resid_map, Nat.add_mul, Nat.one_mul]
      exact pot_iter (pot_seq g (decRepC_pot he n pr.2))
    | _ =>
      rw [hr] at g
      rw [bindRC_apply, hr]
      simp only [Cost.wt_add, Cost.wt_step, Nat.one_mul]
      exact pot_iter (c := 0) g

/-- a loop that fails leaves nothing over, and `repIters_le` bounds its iterations; one that succeeds has
    consumed a byte for each of its `n` elements -/
theorem repIters_resid {elem : RC α} (hs : Cons 1 elem) (n : Nat) (b : Bytes) :
    repIters elem n b + resid (decRepC elem n b).1 ≤ b.length + 1 ∧
    min n b.length + resid (decRepC elem n b).1 ≤ b.length := by
  have hi := repIters_le hs n b
  have := (cons_decRepC hs n).resid_cases b
  omega

/-- with `c` per iteration and `s` per slot of the capacity request -/
theorem loop_arith {W A c s L I m ρ : Nat} (h : W + A * ρ ≤ A * L + I * c) (hI : I + ρ ≤ L + 1)
    (hm : m + ρ ≤ L) : s * m + W + (A + c + s) * ρ ≤ (A + c + s) * L + c := by
  have h1 := Nat.mul_le_mul_left c hI
  have h2 := Nat.mul_le_mul_left s hm
  simp only [Nat.mul_add, Nat.add_mul, Nat.mul_one, Nat.mul_comm I c] at *
  omega

/-- capacity request + loop: `min count rem` slots are paid for by the `count` bytes the loop consumes
    when it succeeds, and by the bytes present when it fails; every iteration by the byte it consumes -/
theorem lin_listBody {p q A D : Nat} {elem : RC α} (he : Lin p q A D elem) (hs : Cons 1 elem)
    (count esz : Nat) :
    Lin p q (A + (D + p) + q * esz) (D + p)
      (bindRC (reqRC (fun rem => min count rem * esz)) (fun _ => decRepC elem count)) := by
  refine .of_pot (cons_listBody hs _ count) (fun b => ?_)
  rw [bindRC_apply, reqRC_apply, Cost.wt_add, Cost.wt_req,
    Nat.mul_comm (min count b.length) esz, ← Nat.mul_assoc]
  exact loop_arith (decRepC_pot he count b) (repIters_resid hs count b).1 (repIters_resid hs count b).2

theorem lin_readScalarC (p q A w : Nat) (e : Endian) : Lin p q A (p + q * w) (readScalarC w e) :=
  lin_mapRC _ (lin_takeNC p q A w)

theorem lin_readFixedC (p q A n : Nat) (pad : UInt8) (left : Bool) :
    Lin p q A (p + q * n) (readFixedC n pad left) :=
  lin_mapRC _ (lin_takeNC p q A n)

theorem lin_readVstrC (p q pw : Nat) (e : Endian) : Lin p q q ((p + q * pw) + p) (readVstrC pw e) :=
  lin_bindRC (lin_readScalarC p q q pw e) (fun len => lin_lenGuardC len (lin_takeAvailC p q len))

/-- constants of a list reader from the constants `(A, D)` of its element -/
def listC (p q cw esz : Nat) (e : Nat × Nat) : Nat × Nat :=
  (e.1 + (e.2 + p) + q * esz, (p + q * cw) + (e.2 + p))

theorem lin_readListC {p q A D : Nat} {elem : RC α} (he : Lin p q A D elem) (hs : Cons 1 elem)
    (cw : Nat) (e : Endian) (esz : Nat) :
    Lin p q (listC p q cw esz (A, D)).1 (listC p q cw esz (A, D)).2 (readListC cw e esz elem) :=
  lin_bindRC (lin_readScalarC p q _ cw e)
    (fun count => lin_lenGuardC count (lin_listBody he hs count esz))

/-- `(A, D)` of one decode statement; `ow ty` = weighted struct size of type `ty`, `cT` = constants of
    the types it refers to.  16 and 8 are the slot sizes `decOpC` passes to `readListC`: a `string` header in
    `make([]string, 0, …)` (ReadFixedStringList…, ReadStringList), a pointer in `make([]K, 0, …)`
    (ReadObjectList); numeric lists have slots of the element width (ReadBasicTypeList) -/
def linOp (p q : Nat) (env : Env) (ow : Nat → Nat) (cT : Nat → Nat × Nat) : Op → Nat × Nat
  | .scalar w _ => (0, p + q * w)
  | .fixed n _ _ => (0, p + q * n)
  | .vstr pw _ => (q, (p + q * pw) + p)
  | .nums cw w _ => listC p q cw w (0, p + q * w)
  | .fixeds cw n _ _ _ => listC p q cw 16 (0, p + q * n)
  | .vstrs cw pw _ => listC p q cw 16 (q, (p + q * pw) + p)
  | .nested ty _ => ((cT ty).1, ow ty + (cT ty).2)
  | .objs cw ty _ => listC p q cw 8 ((cT ty).1, ow ty + (cT ty).2)
  | .union _ tbl _ =>
    (listMax ((env.tableEntries tbl).map (fun kv => (cT kv.2).1)),
     p + listMax ((env.tableEntries tbl).map (fun kv => ow kv.2 + (cT kv.2).2)))
  | .opaque => (0, 0)

/-- `(A, D)` of a type: the largest slope and the sum of the constants of its statements (same
    recursion on fuel as `decTy`) -/
def linTy (p q : Nat) (env : Env) (ow : Nat → Nat) : Nat → Nat → Nat × Nat
  | 0, _ => (0, 0)
  | f+1, ty =>
    match env.types[ty]? with
    | none => (0, p)
    | some td =>
      (listMax (td.dec.map (fun op => (linOp p q env ow (linTy p q env ow f) op).1)),
       p + (td.dec.map (fun op => (linOp p q env ow (linTy p q env ow f) op).2)).sum)

theorem lin_newObjC {p q A D w : Nat} {objSize : Nat → Nat} {dC : Nat → RC Val} {ty : Nat}
    (hw : q * objSize ty ≤ w) (h : Lin p q A D (dC ty)) : Lin p q A (w + D) (newObjC objSize dC ty) :=
  lin_chargeRC (Nat.le_trans (Nat.le_of_eq (Cost.wt_req ..)) hw) h

theorem lin_decOpC {p q : Nat} (env : Env) {objSize ow : Nat → Nat} (how : ∀ ty, q * objSize ty ≤ ow ty)
    {dC : Nat → RC Val} {cT : Nat → Nat × Nat} (h : ∀ ty, Lin p q (cT ty).1 (cT ty).2 (dC ty))
    (hc : ∀ ty, Cons (minSizeTy env env.fuel ty) (dC ty)) (acc : List Val) {op : Op}
    (hop : op.elemOK env = true) :
    Lin p q (linOp p q env ow cT op).1 (linOp p q env ow cT op).2 (decOpC env objSize dC acc op) := by
  cases op with
  | scalar w e => exact lin_mapRC _ (lin_readScalarC p q 0 w e)
  | fixed n pad left => exact lin_mapRC _ (lin_readFixedC p q 0 n _ left)
  | vstr pw e => exact lin_mapRC _ (lin_readVstrC p q pw e)
  | nums cw w e =>
    exact lin_mapRC _ (lin_readListC (lin_readScalarC p q 0 w e)
      ((cons_readScalarC w e).mono (of_decide_eq_true hop)) cw e w)
  | fixeds cw n pad left e =>
    exact lin_mapRC _ (lin_readListC (lin_readFixedC p q 0 n _ left)
      ((cons_readFixedC n _ left).mono (of_decide_eq_true hop)) cw e 16)
  | vstrs cw pw e =>
    exact lin_mapRC _ (lin_readListC (lin_readVstrC p q pw e)
      ((cons_readVstrC pw e).mono (of_decide_eq_true hop)) cw e 16)
  | nested ty g => exact lin_newObjC (how ty) (h ty)
  | objs cw ty e =>
    exact lin_mapRC _ (lin_readListC (lin_newObjC (how ty) (h ty))
      ((cons_newObjC objSize (hc ty)).mono (of_decide_eq_true hop)) cw e 8)
  | union key tbl g =>
    simp only [linOp]
    refine lin_optRC_of (fun ty hu => ?_)
    obtain ⟨tb, k, htb, hm⟩ := unionTy_mem hu
    rw [Env.tableEntries_eq htb]
    exact (lin_newObjC (how ty) (h ty)).mono (le_listMax_map (fun kv : Key × Nat => (cT kv.2).1) hm)
      (le_listMax_map (fun kv : Key × Nat => ow kv.2 + (cT kv.2).2) hm)
  | «opaque» => exact lin_failRC p q 0 0

theorem lin_decSeqC {p q : Nat} {step : List Val → Op → RC Val} {cs : Op → Nat × Nat} :
    ∀ (ops : List Op) (acc : List Val),
      (∀ acc, ∀ op ∈ ops, Lin p q (cs op).1 (cs op).2 (step acc op)) →
      Lin p q (listMax (ops.map (fun op => (cs op).1))) ((ops.map (fun op => (cs op).2)).sum)
        (decSeqC step ops acc)
  | [], acc, _ => lin_pureRC p q _ _ acc
  | op :: ops, acc, h => by
    simp only [List.map_cons, listMax_cons, List.sum_cons]
    exact lin_bindRC
      ((h acc op (List.mem_cons_self ..)).mono (Nat.le_max_left _ _) (Nat.le_refl _))
      (fun v => (lin_decSeqC ops (acc ++ [v])
        (fun acc' op' hm => h acc' op' (List.mem_cons_of_mem _ hm))).mono (Nat.le_max_right _ _) (Nat.le_refl _))

theorem lin_decTyC {p q : Nat} {env : Env} {objSize ow : Nat → Nat} (how : ∀ ty, q * objSize ty ≤ ow ty)
    (hE : env.elemsOK = true) :
    ∀ f ty, Lin p q (linTy p q env ow f ty).1 (linTy p q env ow f ty).2 (decTyC env objSize f ty)
  | 0, _ => lin_failRC p q _ _
  | f+1, ty => by
    rw [decTyC, linTy]
    cases htd : env.types[ty]? with
    | none => exact lin_stepRC (D := 0) (lin_failRC p q _ _)
    | some td =>
      exact lin_stepRC (lin_mapRC _ (lin_decSeqC
        (cs := linOp p q env ow (linTy p q env ow f)) _ _ (fun acc op hop =>
          lin_decOpC env how (lin_decTyC how hE f) (fun ty' => cons_decTyC env objSize f ty' env.fuel) acc
            (Env.elemsOK_at hE htd _ hop))))

/-- `C = A + D`: weighted cost `≤ A * |b| + D ≤ C * (|b| + 1)` -/
def costConst (p q : Nat) (env : Env) (ow : Nat → Nat) (f ty : Nat) : Nat :=
  (linTy p q env ow f ty).1 + (linTy p q env ow f ty).2

theorem decTyC_wt_linear {p q : Nat} {env : Env} {objSize ow : Nat → Nat}
    (how : ∀ ty, q * objSize ty ≤ ow ty) (hE : env.elemsOK = true) (f ty : Nat) (b : Bytes) :
    (decTyC env objSize f ty b).2.wt p q ≤ costConst p q env ow f ty * (b.length + 1) := by
  have h := ((lin_decTyC (p := p) (q := q) how hE f ty).2 b).1
  simp only [costConst, Nat.add_mul, Nat.mul_add, Nat.mul_one]
  omega

/-- `C` of C09: computed from the op counts of the type tree only (no struct sizes, no widths) -/
def stepConst (env : Env) (f ty : Nat) : Nat := costConst 1 0 env (fun _ => 0) f ty

/-- `A` of C10: additionally the widths, slot sizes and struct sizes -/
def allocConst (env : Env) (objSize : Nat → Nat) (f ty : Nat) : Nat := costConst 0 1 env objSize f ty

/-- Linear time (C09).  For EVERY byte string the decoder executes at most
    `stepConst env f ty * (|b| + 1)` primitive reads and loop iterations: every loop iteration either
    consumes at least one byte or ends the loop.  The hypothesis is `Env.elemsOK` as defined in Checks.lean. -/
theorem decTyC_steps_linear {env : Env} (objSize : Nat → Nat) (hE : env.elemsOK = true) (f ty : Nat) (b : Bytes) :
    (decTyC env objSize f ty b).2.steps ≤ stepConst env f ty * (b.length + 1) := by
  have h := decTyC_wt_linear (p := 1) (q := 0) (objSize := objSize) (ow := fun _ => 0)
    (fun _ => Nat.le_of_eq (Nat.zero_mul _)) hE f ty b
  rwa [Cost.wt_one_zero] at h

/-- Total allocation (C10).  For EVERY byte string the bytes requested from the allocator add up
    to at most `allocConst env objSize f ty * (|b| + 1)`. -/
theorem decTyC_alloc_linear {env : Env} (objSize : Nat → Nat) (hE : env.elemsOK = true) (f ty : Nat) (b : Bytes) :
    (decTyC env objSize f ty b).2.alloc ≤ allocConst env objSize f ty * (b.length + 1) := by
  have h := decTyC_wt_linear (p := 0) (q := 1) (objSize := objSize) (ow := objSize)
    (fun _ => Nat.le_of_eq (Nat.one_mul _)) hE f ty b
  rwa [Cost.wt_zero_one] at h

/-- the loop lemma in steps: `decRepC_pot` at slope 0 (an iteration costs at most `S + 1`), times `repIters_le` -/
theorem decRepC_steps_le {elem : RC α} {S : Nat} (hS : ∀ b, (elem b).2.steps ≤ S) (hs : Cons 1 elem)
    (n : Nat) (b : Bytes) : (decRepC elem n b).2.steps ≤ min n (b.length + 1) * (S + 1) := by
  have h := decRepC_pot (p := 1) (q := 0) (A := 0) (D := S)
    (lin_of_bound 0 hs.zero (fun b => (Cost.wt_one_zero _).symm ▸ hS b)) n b
  rw [Cost.wt_one_zero, Nat.zero_mul, Nat.zero_mul, Nat.zero_add] at h
  exact Nat.le_trans h (Nat.mul_le_mul_right _ (repIters_le hs n b))

-- On the pinned schema of the real code; `fun _ => 64` stands for the struct sizes.

example : Pinned.env.elemsOK = true := Pinned.elemsOK
example : Pinned.env.widthsOK = true := Pinned.widthsOK

-- risk.NewOrder is type 68: four length-prefixed texts with 4-byte big-endian prefixes
example : Pinned.typeNames[68]? = some "risk.NewOrder" := by decide +kernel
example : (Pinned.env.types[68]?).map (·.dec) = some [.vstr 4 .be, .vstr 4 .be, .vstr 4 .be,
    .fixed 1 32 false, .scalar 8 .be, .scalar 8 .be, .fixed 1 32 false, .vstr 4 .be] := by decide +kernel

/-- the hostile input of C10: a 4-byte prefix announcing 0x00fffff0 = 16 777 200 bytes, 3 bytes present -/
private def hostile : Bytes := [0x00, 0xff, 0xff, 0xf0, 0x01, 0x02, 0x03]

-- it fails after 3 steps having requested 4 bytes in total (binary.Read's scratch for the prefix):
-- no 16 MiB request
example : decTyC Pinned.env (fun _ => 64) 4 68 hostile = (.err, ⟨3, 4, 4⟩) := rfl
example : (decTyC Pinned.env (fun _ => 64) 4 68 hostile).2 = { steps := 3, alloc := 4, maxReq := 4 } := by
  decide +kernel
-- same for a counted list: bse.ReportSynchronization (type 46) = one repeating group with a 2-byte count;
-- count 0xffff with 3 bytes present: capacity for min 65535 3 = 3 pointers is requested, not 65535
example : (decTyC Pinned.env (fun _ => 64) 4 46 [0xff, 0xff, 1, 2, 3]).2 = { steps := 5, alloc := 94, maxReq := 64 } := by
  decide +kernel
example : decTyC Pinned.env (fun _ => 64) 4 46 [0xff, 0xff, 1, 2, 3] = (.err, ⟨5, 94, 64⟩) := rfl

/-- a well-formed bse.PlatformInfo (type 30) with two group entries -/
private def exP : Bytes :=
  [9,0, 2,0, 7,0,0,0, 65,32,32,32,32,32,32,32,32,32,32,32,32,32,32,32,32,32,32,32,
             8,0,0,0, 66,67,32,32,32,32,32,32,32,32,32,32,32,32,32,32,32,32,32,32]
private def exPV : Val :=
  .msg 30 [.num 9, .msgs [.msg 28 [.num 7, .str [65]], .msg 28 [.num 8, .str [66, 67]]]]

example : decTyC Pinned.env (fun _ => 64) 3 30 exP = (.ok (exPV, []), ⟨11, 196, 64⟩) :=
  Prod.ext (Outcome.ok_of_eqb (by decide +kernel)) (by decide +kernel)
example : (decTyC Pinned.env (fun _ => 64) 3 30 exP).1 = decTy Pinned.env 3 30 exP :=
  decTyC_fst Pinned.env (fun _ => 64) 3 30 exP

-- the constant is 200 (the largest fixed-width text).  Two sweeps of comparisons (nothing exceeds 200, something
-- reaches it) instead of evaluating `maxConst`: the kernel unfolds `max x y` to `if x ≤ y then y else x` and
-- evaluates a nested `y` once for the test and once more as the result
private theorem maxConst_pinned : maxConst Pinned.env (fun _ => 64) = 200 := by
  have hle : ∀ td ∈ Pinned.env.types, ∀ op ∈ td.dec, op.reqConst Pinned.env (fun _ => 64) ≤ 200 := by
    decide +kernel
  obtain ⟨td, hm, op, hop, hge⟩ :
      ∃ td ∈ Pinned.env.types, ∃ op ∈ td.dec, 200 ≤ op.reqConst Pinned.env (fun _ => 64) := by
    decide +kernel
  exact Nat.le_antisymm (listMax_map_le fun td hm => listMax_map_le (hle td hm))
    (Nat.le_trans hge (reqConst_le_maxConst _ hm hop))
example (b : Bytes) : (decTyC Pinned.env (fun _ => 64) 4 68 b).2.maxReq ≤ 16 * b.length + 200 := by
  have h := decTyC_maxReq (env := Pinned.env) (fun _ => 64) Pinned.widthsOK 4 68 b
  rwa [maxConst_pinned] at h
example : maxSlot Pinned.env = 16 := maxSlot_of_widthsOK Pinned.widthsOK
/-- the width hypothesis of `decTyC_maxReq` is NECESSARY for the factor 16 (not for locality: see
    `decTyC_maxReq_slot`): with 100-byte numeric slots, 6 bytes of input make a 500-byte request -/
private def wideEnv : Env :=
  { types := [{ nfields := 1, enc := [], dec := [.nums 1 100 .be], frame := none }], tables := [] }
example : wideEnv.widthsOK = false := by decide +kernel
example : maxConst wideEnv (fun _ => 0) = 100 ∧ maxSlot wideEnv = 100 := by decide +kernel
example : (decTyC wideEnv (fun _ => 0) 2 0 [5, 0, 0, 0, 0, 0]).2.maxReq = 500 := by decide +kernel

private theorem stepConst_68 : stepConst Pinned.env 4 68 = 13 := by decide +kernel
private theorem allocConst_68 : allocConst Pinned.env (fun _ => 64) 4 68 = 35 := by decide +kernel
example (b : Bytes) : (decTyC Pinned.env (fun _ => 64) 4 68 b).2.steps ≤ 13 * (b.length + 1) := by
  have h := decTyC_steps_linear (env := Pinned.env) (fun _ => 64) Pinned.elemsOK 4 68 b
  rwa [stepConst_68] at h
example (b : Bytes) : (decTyC Pinned.env (fun _ => 64) 4 68 b).2.alloc ≤ 35 * (b.length + 1) := by
  have h := decTyC_alloc_linear (env := Pinned.env) (fun _ => 64) Pinned.elemsOK 4 68 b
  rwa [allocConst_68] at h
-- a type with a repeating group (30): slope 4 steps per byte, 96 allocated bytes per byte at worst
example : linTy 1 0 Pinned.env (fun _ => 0) 4 30 = (4, 7) := by decide +kernel
example : linTy 0 1 Pinned.env (fun _ => 64) 4 30 = (96, 92) := by decide +kernel
private theorem stepConst_30 : stepConst Pinned.env 4 30 = 11 := by decide +kernel
example (b : Bytes) : (decTyC Pinned.env (fun _ => 64) 4 30 b).2.steps ≤ 11 * (b.length + 1) := by
  have h := decTyC_steps_linear (env := Pinned.env) (fun _ => 64) Pinned.elemsOK 4 30 b
  rwa [stepConst_30] at h
-- the frame type sse.SseBinary (96) with all its union bodies
example : stepConst Pinned.env 4 96 = 43 := by decide +kernel

example (n : Nat) (b : Bytes) :
    (decRepC (readScalarC 8 .le) n b).2.steps ≤ min n (b.length + 1) * (1 + 1) :=
  decRepC_steps_le (S := 1)
    (fun b => by simp only [readScalarC, mapRC_apply, takeNC_apply, Cost.read]; omega)
    ((cons_readScalarC 8 .le).mono (by omega)) n b

/-- `elemsOK` is NECESSARY: a schema whose repeated element is empty spins `count` times on an empty
    buffer (the 1-byte input `ff` costs 512 steps, `count`-driven, not input-driven) -/
private def badEnv : Env :=
  { types := [{ nfields := 1, enc := [], dec := [.objs 1 1 .be], frame := none },
              { nfields := 0, enc := [], dec := [], frame := none }], tables := [] }
example : badEnv.elemsOK = false := by decide +kernel
example : (decTyC badEnv (fun _ => 0) 3 0 [0xff]).2.steps = 512 := by decide +kernel
example : (decTyC badEnv (fun _ => 0) 3 0 [0x01]).2.steps = 4 := by decide +kernel

end FinProto
