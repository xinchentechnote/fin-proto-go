/-
  The lock-program interpreter `PStep` of LockProg.lean (property C19, regenerated model): for every
  well-bracketed set of programs, every reachable state of every interleaving obeys the lock
  discipline and is linearizable with respect to the programs' own atomic semantics; real-time order
  holds for every set of programs.  The pinned programs are well-bracketed and, run atomically, are
  the map specification; a program set the check rejects is shown not to be linearizable.
-/
import FinProto.LockProg
import FinProto.Props.History

namespace FinProto.Reg

theorem wellBracketed_pinned : wellBracketed pinnedProgs = true := by decide

/-- NEGATIVE: `Registry` doing its check-then-insert under the READ lock -/
def badRegShared : Progs :=
  { pinnedProgs with reg := [.rlock, .deferRUnlock, .ifExistsRetFalse, .store, .retTrue] }

theorem wellBracketed_badRegShared : wellBracketed badRegShared = false := by decide

/-- NEGATIVE: check under the read lock, explicit `mu.RUnlock()` (not expressible as a statement:
    the extractor emits `opaque`), then `Lock` and insert: a split check-then-insert -/
def badRegSplit : Progs :=
  { pinnedProgs with reg := [.rlock, .ifExistsRetFalse, .opaque, .lock, .deferUnlock, .store, .retTrue] }

theorem wellBracketed_badRegSplit : wellBracketed badRegSplit = false := by decide

/-- NEGATIVE: two brackets in one function -/
def badRegTwoBrackets : Progs :=
  { pinnedProgs with
    reg := [.rlock, .deferRUnlock, .ifExistsRetFalse, .lock, .deferUnlock, .store, .retTrue] }

theorem wellBracketed_badRegTwoBrackets : wellBracketed badRegTwoBrackets = false := by decide

/-- NEGATIVE: no lock at all / lock without deferred unlock / unrecognised statement in the body /
    a writing `Get` / `Lock` with a deferred `RUnlock` -/
example : wellBracketed { pinnedProgs with get := [.ifExistsRetLoaded, .retNone] } = false := by decide
example : wellBracketed { pinnedProgs with remove := [.lock, .delete] } = false := by decide
example : wellBracketed { pinnedProgs with clear := [.lock, .deferUnlock, .opaque, .replace] } = false := by
  decide
example : wellBracketed { pinnedProgs with get := [.rlock, .deferRUnlock, .delete, .retNone] } = false := by
  decide
example : wellBracketed { pinnedProgs with remove := [.lock, .deferRUnlock, .delete] } = false := by decide

theorem pinned_atomic (c : Call) (m : Map) : atomicSem (progOf pinnedProgs c) c m = spec m c := by
  cases c with
  | reg n s => cases h : get m n <;> simp [progOf, pinnedProgs, atomicSem, execStmt, spec, keyOf, valOf, h]
  | get n => cases h : get m n <;> simp [progOf, pinnedProgs, atomicSem, execStmt, spec, keyOf, h]
  | remove n => simp [progOf, pinnedProgs, atomicSem, execStmt, spec, keyOf]
  | clear => simp [progOf, pinnedProgs, atomicSem, execStmt, spec]

theorem runAtomic_pinned (m : Map) (cs : List Call) : runAtomic pinnedProgs m cs = runSpec m cs := by
  induction cs generalizing m with
  | nil => rfl
  | cons c cs ih => simp [runAtomic, runSpec, pinned_atomic, ih]

theorem runAtomic_append (ps : Progs) (m : Map) (a b : List Call) :
    runAtomic ps m (a ++ b) =
      ((runAtomic ps (runAtomic ps m a).1 b).1,
        (runAtomic ps m a).2 ++ (runAtomic ps (runAtomic ps m a).1 b).2) := by
  induction a generalizing m with
  | nil => simp [runAtomic]
  | cons c cs ih => simp [runAtomic, ih]

/-- what a running call will produce if its remaining statements are run atomically from map `m` -/
def fut (c : Call) (rest : Prog) (res : Option Res) (m : Map) : Map × Res :=
  match res with
  | some r => (m, r)
  | none => atomicSem rest c m

theorem fut_stmt (c : Call) (st : Stmt) (rest : Prog) (m : Map) :
    fut c (contRest (execStmt st c m).2 rest) (execStmt st c m).2 (execStmt st c m).1 =
      fut c (st :: rest) none m := by
  cases h : (execStmt st c m).2 <;> simp [fut, atomicSem, contRest, h]

theorem atomicSem_skip (c : Call) (st : Stmt) (rest : Prog) (m : Map) (h : isLockStmt st = true) :
    atomicSem (st :: rest) c m = atomicSem rest c m := by
  cases st <;> simp [isLockStmt] at h <;> simp [atomicSem, execStmt]

theorem fut_finished {c : Call} {rest : Prog} {res : Option Res} {r : Res} (m : Map)
    (h : finished rest res = some r) : fut c rest res m = (m, r) := by
  cases res with
  | some r' => simp [finished] at h; simp [fut, h]
  | none =>
    cases rest with
    | nil => simp [finished] at h; simp [fut, atomicSem, h]
    | cons _ _ => simp [finished] at h

theorem execStmt_ro (st : Stmt) (c : Call) (m : Map) (h : isRO st = true) : (execStmt st c m).1 = m := by
  cases st <;> simp [isRO, isBody, isWrite, isLockStmt] at h <;> simp [execStmt] <;> split <;> rfl

theorem setTh_self (th : Tid → TSt) (t : Tid) (x : TSt) : setTh th t x t = x := upd_self
theorem setTh_of_ne (th : Tid → TSt) {t u : Tid} (x : TSt) (e : u ≠ t) : setTh th t x u = th u := upd_of_ne e

/-- the thread is executing a call whose program begins with `lock`, has executed at least that
    first statement, and has not yet performed its deferred unlock: it is "past its `lock`" -/
def wIn (ps : Progs) : TSt → Bool
  | .run c rest _ _ => decide (rest.length < (progOf ps c).length) && ((progOf ps c).head? == some .lock)
  | _ => false

def rIn (ps : Progs) : TSt → Bool
  | .run c rest _ _ => decide (rest.length < (progOf ps c).length) && ((progOf ps c).head? == some .rlock)
  | _ => false

theorem in_start (ps : Progs) (c : Call) (pend : Pend) (res : Option Res) :
    wIn ps (.run c (progOf ps c) pend res) = false ∧ rIn ps (.run c (progOf ps c) pend res) = false := by
  simp [wIn, rIn]

/-! The write bracket `lock, deferUnlock, body…` and the read bracket `rlock, deferRUnlock, body…`
    are one bracket with a kind `w` (`true`: write). -/

def lockOf : Bool → Stmt | true => .lock | false => .rlock
def deferOf : Bool → Stmt | true => .deferUnlock | false => .deferRUnlock
def pendOf : Bool → Pend | true => .X | false => .S
def okIn : Bool → Stmt → Bool | true => isBody | false => isRO

theorem wbProg_cases {p : Prog} (h : wbProg p = true) :
    ∃ w body, p = lockOf w :: deferOf w :: body ∧ ∀ st ∈ body, okIn w st = true := by
  unfold wbProg at h
  split at h
  · exact ⟨true, _, rfl, List.all_eq_true.1 h⟩
  · exact ⟨false, _, rfl, List.all_eq_true.1 h⟩
  · cases h

theorem wb_progOf {ps : Progs} (h : wellBracketed ps = true) (c : Call) : wbProg (progOf ps c) = true := by
  simp only [wellBracketed, Bool.and_eq_true] at h
  cases c
  · exact h.1.1.1
  · exact h.1.1.2
  · exact h.1.2
  · exact h.2

/-- where a running call is in its program, one bracket of some kind `w`: about to lock; lock held,
    about to defer; in the body with the unlock deferred -/
def TOk (ps : Progs) : TSt → Prop
  | .run c rest pend res =>
    ∃ w body, progOf ps c = lockOf w :: deferOf w :: body ∧ (∀ st ∈ body, okIn w st = true) ∧
      ((rest = progOf ps c ∧ pend = .nothing ∧ res = none) ∨
       (rest = deferOf w :: body ∧ pend = .nothing ∧ res = none) ∨
       (rest <:+ body ∧ pend = pendOf w))
  | _ => True

section
variable {ps : Progs} {c : Call} {rest : Prog} {pend : Pend} {res : Option Res}

theorem in_of_short {w : Bool} {body : Prog} (hp : progOf ps c = lockOf w :: deferOf w :: body)
    (hl : rest.length ≤ body.length + 1) :
    wIn ps (.run c rest pend res) = w ∧ rIn ps (.run c rest pend res) = !w := by
  cases w <;> simp [wIn, rIn, hp, lockOf] <;> omega

theorem not_okIn_lock :
    ∀ w w', okIn w' (lockOf w) = false ∧ okIn w' (deferOf w) = false ∧ okIn w' .opaque = false := by
  decide

theorem bracket_inj : ∀ w w', (lockOf w = lockOf w' → w = w') ∧ (deferOf w = deferOf w' → w = w') ∧
    (pendOf w = pendOf w' → w = w') := by
  decide

theorem tok_acq {w : Bool} (h : TOk ps (.run c (lockOf w :: rest) pend none)) :
    progOf ps c = lockOf w :: rest ∧ TOk ps (.run c rest pend none) ∧
    (wIn ps (.run c rest pend none) = w ∧ rIn ps (.run c rest pend none) = !w) := by
  obtain ⟨w', body, hp, hall, h⟩ := h
  rcases h with ⟨h1, h2, -⟩ | ⟨h1, -⟩ | ⟨h1, -⟩
  · rw [hp] at h1
    injection h1 with e1 e2
    cases (bracket_inj w w').1 e1
    exact ⟨by rw [hp, e2], ⟨w, body, hp, hall, .inr (.inl ⟨e2, h2, rfl⟩)⟩,
      in_of_short hp (by rw [e2]; exact Nat.le_refl _)⟩
  · injection h1 with e1
    cases w <;> cases w' <;> cases e1
  · have := hall _ (h1.subset (List.mem_cons_self ..))
    rw [(not_okIn_lock w w').1] at this
    cases this

theorem tok_defer {w : Bool} (h : TOk ps (.run c (deferOf w :: rest) pend none)) :
    TOk ps (.run c rest (pendOf w) none) ∧
    wIn ps (.run c rest (pendOf w) none) = wIn ps (.run c (deferOf w :: rest) pend none) ∧
    rIn ps (.run c rest (pendOf w) none) = rIn ps (.run c (deferOf w :: rest) pend none) := by
  obtain ⟨w', body, hp, hall, h⟩ := h
  rcases h with ⟨h1, -⟩ | ⟨h1, -⟩ | ⟨h1, -⟩
  · rw [hp] at h1
    injection h1 with e1
    cases w <;> cases w' <;> cases e1
  · injection h1 with e1 e2
    cases (bracket_inj w w').2.1 e1
    have old := in_of_short (rest := deferOf w :: rest) (pend := pend) (res := none) hp
      (by rw [e2]; exact Nat.le_refl _)
    have new := in_of_short (rest := rest) (pend := pendOf w) (res := none) hp (by rw [e2]; exact Nat.le_succ _)
    exact ⟨⟨w, body, hp, hall, .inr (.inr ⟨e2 ▸ List.suffix_refl _, rfl⟩)⟩, new.1.trans old.1.symm,
      new.2.trans old.2.symm⟩
  · have := hall _ (h1.subset (List.mem_cons_self ..))
    rw [(not_okIn_lock w w').2.1] at this
    cases this

theorem contRest_suffix (o : Option Res) (rest : Prog) : contRest o rest <:+ rest := by
  cases o
  · exact List.suffix_refl _
  · exact List.nil_suffix

theorem tok_body {st : Stmt} (h : TOk ps (.run c (st :: rest) pend none)) (hb : isBody st = true) :
    ∃ w, (wIn ps (.run c (st :: rest) pend none) = w ∧ rIn ps (.run c (st :: rest) pend none) = !w) ∧
      (w = false → isRO st = true) ∧
      ∀ o, TOk ps (.run c (contRest o rest) pend o) ∧
        wIn ps (.run c (contRest o rest) pend o) = w ∧ rIn ps (.run c (contRest o rest) pend o) = !w := by
  obtain ⟨w, body, hp, hall, h⟩ := h
  rcases h with ⟨h1, -⟩ | ⟨h1, -⟩ | ⟨h1, h2⟩
  · rw [hp] at h1
    injection h1 with e1
    rw [e1] at hb
    cases w <;> cases hb
  · injection h1 with e1
    rw [e1] at hb
    cases w <;> cases hb
  · refine ⟨w, in_of_short hp (Nat.le_succ_of_le h1.length_le), fun e => ?_, fun o => ?_⟩
    · have := hall _ (h1.subset (List.mem_cons_self ..))
      rw [e] at this
      exact this
    · have hs : contRest o rest <:+ body := ((contRest_suffix o rest).trans (List.suffix_cons st rest)).trans h1
      exact ⟨⟨w, body, hp, hall, .inr (.inr ⟨hs, h2⟩)⟩, in_of_short hp (Nat.le_succ_of_le hs.length_le)⟩

theorem tok_opaque (h : TOk ps (.run c (.opaque :: rest) pend res)) : False := by
  obtain ⟨w, body, hp, hall, h⟩ := h
  rcases h with ⟨h1, -⟩ | ⟨h1, -⟩ | ⟨h1, -⟩
  · rw [hp] at h1
    injection h1 with e1
    cases w <;> cases e1
  · injection h1 with e1
    cases w <;> cases e1
  · have := hall _ (h1.subset (List.mem_cons_self ..))
    rw [(not_okIn_lock w w).2.2] at this
    cases this

theorem tok_pend {w : Bool} (h : TOk ps (.run c rest (pendOf w) res)) :
    wIn ps (.run c rest (pendOf w) res) = w ∧ rIn ps (.run c rest (pendOf w) res) = !w := by
  obtain ⟨w', body, hp, hall, h⟩ := h
  rcases h with ⟨-, h2, -⟩ | ⟨-, h2, -⟩ | ⟨h1, h2⟩
  · cases w <;> cases h2
  · cases w <;> cases h2
  · cases (bracket_inj w w').2.2 h2
    exact in_of_short hp (Nat.le_succ_of_le h1.length_le)

theorem tok_nothing_finished {r : Res} (h : TOk ps (.run c rest .nothing res))
    (hf : finished rest res = some r) : False := by
  obtain ⟨w, body, hp, hall, h⟩ := h
  rcases h with ⟨h1, -, h3⟩ | ⟨h1, -, h3⟩ | ⟨-, h2⟩
  · rw [h1, hp, h3] at hf
    cases hf
  · rw [h1, h3] at hf
    cases hf
  · cases w <;> cases h2

end

def SInv (ps : Progs) (s : PState) : Prop := (∀ t, TOk ps (s.th t)) ∧ LockOK (wIn ps) (rIn ps) s.th s.lock

theorem sInv_step {ps : Progs} (hwb : wellBracketed ps = true) {s s' : PState}
    (hi : SInv ps s) (hs : PStep ps s s') : SInv ps s' := by
  obtain ⟨htok, hli⟩ := hi
  have defer : ∀ w {t c rest pend}, s.th t = .run c (deferOf w :: rest) pend none →
      SInv ps ⟨s.lock, s.mem, setTh s.th t (.run c rest (pendOf w) none), s.hist, s.lin⟩ := by
    intro w t c rest pend h
    obtain ⟨h3, hw, hr⟩ := tok_defer (at_of_eq htok h)
    exact ⟨forall_upd htok h3, hli.same h hw hr⟩
  cases hs with
  | invoke t c h =>
    obtain ⟨w, body, hp, hall⟩ := wbProg_cases (wb_progOf hwb c)
    exact ⟨forall_upd htok ⟨w, body, hp, hall, .inl ⟨rfl, rfl, rfl⟩⟩,
      hli.same h (in_start ..).1 (in_start ..).2⟩
  | lock t c rest pend h hl =>
    obtain ⟨-, h3, h4⟩ := tok_acq (w := true) (at_of_eq htok h)
    exact ⟨forall_upd htok h3, hli.acqX hl h4.1 h4.2⟩
  | rlockFree t c rest pend h hl =>
    obtain ⟨-, h3, h4⟩ := tok_acq (w := false) (at_of_eq htok h)
    exact ⟨forall_upd htok h3, hli.acqS_free hl h4.1 h4.2⟩
  | rlockShared t c rest pend ts h hl =>
    obtain ⟨hp, h3, h4⟩ := tok_acq (w := false) (at_of_eq htok h)
    -- about to execute the first statement of its program, `t` is not yet a reader
    exact ⟨forall_upd htok h3, hli.acqS_shared hl h (hp ▸ (in_start ps c pend none).2) h4.1 h4.2⟩
  | deferUnlock t c rest pend h => exact defer true h
  | deferRUnlock t c rest pend h => exact defer false h
  | stmt t c st rest pend h hb =>
    obtain ⟨w, h1, -, h3⟩ := tok_body (at_of_eq htok h) hb
    obtain ⟨a, b, d⟩ := h3 (execStmt st c s.mem).2
    exact ⟨forall_upd htok a, hli.same h (b.trans h1.1.symm) (d.trans h1.2.symm)⟩
  | «opaque» t c rest pend m' h => exact (tok_opaque (at_of_eq htok h)).elim
  | unlock t c rest res r h hf =>
    exact ⟨forall_upd htok trivial, hli.relX (hli.of_W h (tok_pend (w := true) (at_of_eq htok h)).1) rfl rfl⟩
  | runlock t c rest res r ts h hf hl => exact ⟨forall_upd htok trivial, hli.relS hl rfl rfl⟩
  | finishNoDefer t c rest res r h hf => exact (tok_nothing_finished (at_of_eq htok h) hf).elim
  | «return» t c r h => exact ⟨forall_upd htok trivial, hli.same h rfl rfl⟩

theorem sInv_reachable {ps : Progs} (hwb : wellBracketed ps = true) {m0 : Map} {s : PState}
    (h : PReachable ps m0 s) : SInv ps s := by
  induction h with
  | init => exact ⟨fun _ => trivial, fun _ => ⟨rfl, rfl⟩⟩
  | step _ hs ih => exact sInv_step hwb ih hs

/-- Lock discipline / mutual exclusion, for every reachable state of every interleaving of
    every well-bracketed set of programs. -/
theorem pmutual_exclusion {ps : Progs} (hwb : wellBracketed ps = true) {m0 : Map} {s : PState}
    (h : PReachable ps m0 s) :
    -- a thread past its `lock` owns the lock exclusively; nobody else is inside
    (∀ t, wIn ps (s.th t) = true →
        s.lock = .excl t ∧ ∀ u, u ≠ t → wIn ps (s.th u) = false ∧ rIn ps (s.th u) = false) ∧
    -- a thread past its `rlock` is a registered reader; the threads past `rlock` are exactly the
    -- registered readers (no duplicates), and no writer is inside
    (∀ t, rIn ps (s.th t) = true →
        ∃ ts, s.lock = .shared ts ∧ t ∈ ts ∧ ts.Nodup ∧
          (∀ u, rIn ps (s.th u) = true ↔ u ∈ ts) ∧ ∀ u, wIn ps (s.th u) = false) ∧
    -- a free lock means nobody is inside; a held lock is held by somebody who is inside
    (s.lock = .free → ∀ u, wIn ps (s.th u) = false ∧ rIn ps (s.th u) = false) ∧
    (∀ t, s.lock = .excl t → wIn ps (s.th t) = true) ∧
    (∀ ts, s.lock = .shared ts → ts ≠ [] ∧ ts.Nodup ∧ ∀ u, u ∈ ts → rIn ps (s.th u) = true) :=
  (sInv_reachable hwb h).2.mutex

/-- data-race freedom, write side: the map changes only in a step of the thread that holds the
    exclusive lock (and is past its `lock`). -/
theorem pwrite_needs_lock {ps : Progs} (hwb : wellBracketed ps = true) {m0 : Map} {s s' : PState}
    (h : PReachable ps m0 s) (hs : PStep ps s s') (hm : s'.mem ≠ s.mem) :
    ∃ t, s.lock = .excl t ∧ wIn ps (s.th t) = true ∧ s'.th t ≠ s.th t ∧
      ∀ u, u ≠ t → s'.th u = s.th u := by
  obtain ⟨htok, hli⟩ := sInv_reachable hwb h
  cases hs with
  | stmt t c st rest pend hp hb =>
    obtain ⟨w, h1, hro, -⟩ := tok_body (at_of_eq htok hp) hb
    cases w with
    | false => exact absurd (execStmt_ro st c s.mem (hro rfl)) hm
    | true =>
      -- the thread state has changed: fewer statements remain
      refine hli.owner_moves hp h1.1 fun e => ?_
      injection e with _ e _ _
      have := (contRest_suffix (execStmt st c s.mem).2 rest).length_le
      rw [e] at this
      exact Nat.not_succ_le_self _ this
  | «opaque» t c rest pend m' hp => exact (tok_opaque (at_of_eq htok hp)).elim
  | _ => exact absurd rfl hm

def pspecMap (ps : Progs) (m0 : Map) (lin : List (Tid × Call × Res)) : Map :=
  (runAtomic ps m0 (lin.map (fun x => x.2.1))).1

/-- what the data invariant says of one thread: a call that is inside the lock will produce, running
    its remaining statements from the map `mem`, what its whole program produces atomically from the
    atomic map `sp` -/
def FutAt (ps : Progs) (mem sp : Map) : TSt → Prop
  | .run c rest pend res =>
    (wIn ps (.run c rest pend res) = true ∨ rIn ps (.run c rest pend res) = true) →
      fut c rest res mem = atomicSem (progOf ps c) c sp
  | _ => True

theorem futAt_outside {ps : Progs} (mem sp : Map) {x : TSt} (hw : wIn ps x = false) (hr : rIn ps x = false) :
    FutAt ps mem sp x := by
  cases x with
  | run c rest pend res =>
    intro hin
    rw [hw, hr] at hin
    rcases hin with hin | hin <;> cases hin
  | _ => trivial

theorem futAt_step {ps : Progs} {mem mem' sp : Map} {c : Call} {rest rest' : Prog} {pend pend' : Pend}
    {res res' : Option Res} (h : FutAt ps mem sp (.run c rest pend res))
    (hw : wIn ps (.run c rest' pend' res') = wIn ps (.run c rest pend res))
    (hr : rIn ps (.run c rest' pend' res') = rIn ps (.run c rest pend res))
    (hf : fut c rest' res' mem' = fut c rest res mem) : FutAt ps mem' sp (.run c rest' pend' res') := by
  intro hin
  rw [hw, hr] at hin
  exact hf.trans (h hin)

def PDataInv (ps : Progs) (m0 mem : Map) (lin : List (Tid × Call × Res)) (th : Tid → TSt) : Prop :=
  (runAtomic ps m0 (lin.map (fun x => x.2.1))).2 = lin.map (fun x => x.2.2) ∧
  ((∀ u, wIn ps (th u) = false) → mem = pspecMap ps m0 lin) ∧
  ∀ u, FutAt ps mem (pspecMap ps m0 lin) (th u)

section
variable {ps : Progs} {m0 mem : Map} {lin : List (Tid × Call × Res)} {th : Tid → TSt} {t : Tid} {x y : TSt}

theorem pdataInv_same (hd : PDataInv ps m0 mem lin th) (e : th t = y) (hw : wIn ps x = wIn ps y)
    (hx : FutAt ps mem (pspecMap ps m0 lin) x) : PDataInv ps m0 mem lin (setTh th t x) :=
  ⟨hd.1, fun h => hd.2.1 fun u => upd_view (wIn ps) e hw u ▸ h u, forall_upd hd.2.2 hx⟩

/-- `t` executes the `Lock()` / `RLock()` its program starts with while no writer is inside, so that the map is
    the atomic map: what it will produce is the atomic outcome of its whole program -/
theorem pdataInv_acq (hd : PDataInv ps m0 mem lin th) {c : Call} {st : Stmt} {rest : Prog}
    {pend : Pend} (hp : progOf ps c = st :: rest) (hst : isLockStmt st = true)
    (hnw : ∀ u, wIn ps (th u) = false) : PDataInv ps m0 mem lin (setTh th t (.run c rest pend none)) := by
  have hm := hd.2.1 hnw
  refine ⟨hd.1, fun _ => hm, forall_upd hd.2.2 fun _ => ?_⟩
  rw [hp, atomicSem_skip _ _ _ _ hst, ← hm]
  rfl

theorem futAt_alone (mem' sp : Map) (hx : FutAt ps mem' sp x)
    (hout : ∀ u, u ≠ t → wIn ps (th u) = false ∧ rIn ps (th u) = false) :
    ∀ u, FutAt ps mem' sp (setTh th t x u) :=
  forall_upd_of_ne hx fun u e => futAt_outside _ _ (hout u e).1 (hout u e).2

theorem plin_snoc (hres : (runAtomic ps m0 (lin.map (fun x => x.2.1))).2 = lin.map (fun x => x.2.2)) (t : Tid)
    {c : Call} {r : Res} {mem' : Map} (hsp : (mem', r) = atomicSem (progOf ps c) c (pspecMap ps m0 lin)) :
    (runAtomic ps m0 ((lin ++ [(t, c, r)]).map (fun x => x.2.1))).2 = (lin ++ [(t, c, r)]).map (fun x => x.2.2) ∧
    pspecMap ps m0 (lin ++ [(t, c, r)]) = mem' := by
  simp only [pspecMap, List.map_append, List.map_cons, List.map_nil, runAtomic_append, runAtomic, hres] at hsp ⊢
  rw [← hsp]
  exact ⟨rfl, rfl⟩

/-- `t` releases the lock; the left alternatives of `hin` and `hoth` are those of a writer, the right ones
    those of a reader -/
theorem pdataInv_release (hd : PDataInv ps m0 mem lin th) {c : Call} {rest : Prog} {pend : Pend}
    {res : Option Res} {r : Res} (h : th t = .run c rest pend res) (hf : finished rest res = some r)
    (hin : wIn ps (.run c rest pend res) = true ∨ rIn ps (.run c rest pend res) = true)
    (hoth : (∀ u, u ≠ t → wIn ps (th u) = false ∧ rIn ps (th u) = false) ∨
            (∀ u, wIn ps (th u) = false)) :
    PDataInv ps m0 mem (lin ++ [(t, c, r)]) (setTh th t (.ret c r)) := by
  have hsp := at_of_eq hd.2.2 h hin
  rw [fut_finished mem hf] at hsp
  obtain ⟨hres, e⟩ := plin_snoc hd.1 t hsp
  refine ⟨hres, fun _ => e.symm, ?_⟩
  rw [e]
  rcases hoth with hoth | hoth
  · exact futAt_alone _ _ trivial hoth
  · -- readers only: the map is the atomic map, before and after
    have h3 := hd.2.2
    rw [← hd.2.1 hoth] at h3
    exact forall_upd h3 trivial

end

theorem pdataInv_step {ps : Progs} {m0 : Map} {s s' : PState}
    (hi : SInv ps s) (hd : PDataInv ps m0 s.mem s.lin s.th) (hs : PStep ps s s') :
    PDataInv ps m0 s'.mem s'.lin s'.th := by
  obtain ⟨htok, hli⟩ := hi
  -- the `defer` is a lock statement, skipped by `atomicSem`: what `t` will produce does not change
  have defer : ∀ w {t c rest pend}, s.th t = .run c (deferOf w :: rest) pend none →
      PDataInv ps m0 s.mem s.lin (setTh s.th t (.run c rest (pendOf w) none)) := by
    intro w t c rest pend h
    obtain ⟨-, hw, hr⟩ := tok_defer (at_of_eq htok h)
    exact pdataInv_same hd h hw
      (futAt_step (at_of_eq hd.2.2 h) hw hr (atomicSem_skip c _ rest s.mem (by cases w <;> rfl)).symm)
  cases hs with
  | invoke t c h => exact pdataInv_same hd h (in_start ..).1 (futAt_outside _ _ (in_start ..).1 (in_start ..).2)
  | «return» t c r h => exact pdataInv_same hd h rfl trivial
  | lock t c rest pend h hl =>
    exact pdataInv_acq hd (tok_acq (w := true) (at_of_eq htok h)).1 rfl fun u => (hli.free hl u).1
  | rlockFree t c rest pend h hl =>
    exact pdataInv_acq hd (tok_acq (w := false) (at_of_eq htok h)).1 rfl fun u => (hli.free hl u).1
  | rlockShared t c rest pend ts h hl =>
    exact pdataInv_acq hd (tok_acq (w := false) (at_of_eq htok h)).1 rfl (hli.no_writer hl)
  | deferUnlock t c rest pend h => exact defer true h
  | deferRUnlock t c rest pend h => exact defer false h
  | stmt t c st rest pend h hb =>
    obtain ⟨w, h1, hro, h3⟩ := tok_body (at_of_eq htok h) hb
    obtain ⟨-, h2w, h2r⟩ := h3 (execStmt st c s.mem).2
    -- one body statement does not change what the call will produce (`fut_stmt`)
    have hx := futAt_step (at_of_eq hd.2.2 h) (h2w.trans h1.1.symm) (h2r.trans h1.2.symm) (fut_stmt c st rest s.mem)
    cases w with
    | true =>
      -- a writer's statement may change the map: `t` stays a writer inside, and nobody else is inside
      refine ⟨hd.1, fun h' => ?_, futAt_alone _ _ hx (hli.alone h h1.1)⟩
      have : wIn ps (setTh s.th t _ t) = false := h' t
      rw [setTh_self, h2w] at this
      cases this
    | false =>
      -- a reader's statement leaves the map as it is
      have hm := execStmt_ro st c s.mem (hro rfl)
      show PDataInv ps m0 (execStmt st c s.mem).1 s.lin _
      rw [hm] at hx ⊢
      exact pdataInv_same hd h (h2w.trans h1.1.symm) hx
  | «opaque» t c rest pend m' h => exact (tok_opaque (at_of_eq htok h)).elim
  | finishNoDefer t c rest res r h hf => exact (tok_nothing_finished (at_of_eq htok h) hf).elim
  | unlock t c rest res r h hf =>
    have hw := (tok_pend (w := true) (at_of_eq htok h)).1
    exact pdataInv_release hd h hf (.inl hw) (.inl (hli.alone h hw))
  | runlock t c rest res r ts h hf hl =>
    exact pdataInv_release hd h hf (.inr (tok_pend (w := false) (at_of_eq htok h)).2) (.inr (hli.no_writer hl))

theorem pdataInv_reachable {ps : Progs} (hwb : wellBracketed ps = true) {m0 : Map} {s : PState}
    (h : PReachable ps m0 s) : PDataInv ps m0 s.mem s.lin s.th := by
  induction h with
  | init => exact ⟨rfl, fun _ => rfl, fun _ => trivial⟩
  | step hr hs ih => exact pdataInv_step (sInv_reachable hwb hr) ih hs

/-- Linearizability, for every reachable state of every interleaving of every
    well-bracketed set of programs: the results recorded in `lin` are exactly those of running the
    calls atomically, in lock-release order, each with `atomicSem` of its own program; the Go map
    equals the atomic map whenever no writer is inside (lock free, or readers only); and a call
    that is inside the lock will produce -- running its remaining statements from the current map
    -- exactly what its whole program produces atomically from the atomic map (in particular at
    its release point the map and its result ARE the atomic outcome). -/
theorem plinearizable {ps : Progs} (hwb : wellBracketed ps = true) {m0 : Map} {s : PState}
    (h : PReachable ps m0 s) :
    let calls := s.lin.map (fun x => x.2.1)
    let results := s.lin.map (fun x => x.2.2)
    let specState := (runAtomic ps m0 calls).1
    (runAtomic ps m0 calls).2 = results ∧
    (s.lock = .free → s.mem = specState) ∧
    (∀ ts, s.lock = .shared ts → s.mem = specState) ∧
    ((∀ u, wIn ps (s.th u) = false) → s.mem = specState) ∧
    (∀ t, rIn ps (s.th t) = true → s.mem = specState) ∧
    (∀ t c rest pend res, s.th t = .run c rest pend res →
        (wIn ps (s.th t) = true ∨ rIn ps (s.th t) = true) →
        fut c rest res s.mem = atomicSem (progOf ps c) c specState) ∧
    (∀ t c rest pend res r, s.th t = .run c rest pend res → finished rest res = some r →
        (s.mem, r) = atomicSem (progOf ps c) c specState) := by
  obtain ⟨htok, hl⟩ := sInv_reachable hwb h
  obtain ⟨hres, hmem, hfut⟩ := pdataInv_reachable hwb h
  refine ⟨hres, fun hf => hmem fun u => (hl.free hf u).1, fun ts hs => hmem (hl.no_writer hs), hmem, ?_,
    fun t c rest pend res ht hin => at_of_eq hfut ht (ht ▸ hin), ?_⟩
  · intro t ht
    obtain ⟨ts, hs, _⟩ := hl.of_R rfl ht
    exact hmem (hl.no_writer hs)
  · intro t c rest pend res r ht hf
    have hok := at_of_eq htok ht
    have hin : wIn ps (.run c rest pend res) = true ∨ rIn ps (.run c rest pend res) = true := by
      cases pend with
      | nothing => exact (tok_nothing_finished hok hf).elim
      | X => exact .inl (tok_pend (w := true) hok).1
      | S => exact .inr (tok_pend (w := false) hok).2
    have := at_of_eq hfut ht hin
    rw [fut_finished s.mem hf] at this
    exact this

/-- For the pinned programs the atomic semantics is the map specification `spec`,
    so every interleaving of `Registry / Get / Remove / Clear` is linearizable with respect to
    `spec` (in lock-release order). -/
theorem pinned_linearizable {m0 : Map} {s : PState} (h : PReachable pinnedProgs m0 s) :
    let calls := s.lin.map (fun x => x.2.1)
    let results := s.lin.map (fun x => x.2.2)
    let specState := (runSpec m0 calls).1
    (runSpec m0 calls).2 = results ∧
    (s.lock = .free → s.mem = specState) ∧
    (∀ ts, s.lock = .shared ts → s.mem = specState) ∧
    ((∀ u, wIn pinnedProgs (s.th u) = false) → s.mem = specState) ∧
    (∀ t, rIn pinnedProgs (s.th t) = true → s.mem = specState) ∧
    (∀ t c rest pend res, s.th t = .run c rest pend res →
        (wIn pinnedProgs (s.th t) = true ∨ rIn pinnedProgs (s.th t) = true) →
        fut c rest res s.mem = spec specState c) ∧
    (∀ t c rest pend res r, s.th t = .run c rest pend res → finished rest res = some r →
        (s.mem, r) = spec specState c) := by
  have := plinearizable wellBracketed_pinned h
  simp only [runAtomic_pinned, pinned_atomic] at this
  exact this

def ppending : TSt → Bool
  | .run _ _ _ _ => true
  | _ => false

def thCall : TSt → Option Call
  | .run c _ _ _ => some c
  | _ => none

def thRet : TSt → Option (Call × Res)
  | .ret c r => some (c, r)
  | _ => none

theorem ppending_eq (x : TSt) : ppending x = (thCall x).isSome := by cases x <;> rfl

abbrev PHistInv (s : PState) : Prop := HistOK thCall thRet s.hist s.lin s.th

theorem phistInv_step {ps : Progs} {s s' : PState} (hi : PHistInv s) (hs : PStep ps s s') : PHistInv s' := by
  cases hs with
  | invoke t c h => exact hi.invoke h rfl rfl rfl
  | unlock t c rest res r h _ => exact hi.release h rfl rfl rfl rfl
  | runlock t c rest res r ts h _ _ => exact hi.release h rfl rfl rfl rfl
  | finishNoDefer t c rest res r h _ => exact hi.release h rfl rfl rfl rfl
  | «return» t c r h => exact hi.return h rfl rfl rfl
  -- `by rfl`, not `rfl`: a term would be checked before the assumption has fixed the old thread state, and
  -- would identify it with the new one
  | _ => exact hi.internal ‹s.th _ = _› (by rfl) (by rfl)

theorem phistInv_reachable {ps : Progs} {m0 : Map} {s : PState} (h : PReachable ps m0 s) : PHistInv s := by
  induction h with
  | init => exact HistOK.init rfl rfl
  | step _ hs ih => exact phistInv_step ih hs

/-- Real-time order, step form, for every set of programs: when `t'` invokes `c'`, every call that has
    returned has its entry in `s.lin` (with multiplicity), and none of the entries of `t'` is that of the new
    call.  Since `lin` only grows at its end, the entry of the new call comes after all of them. -/
theorem pret_before_inv_lin {ps : Progs} {m0 : Map} {s s' : PState} (h : PReachable ps m0 s)
    (hs : PStep ps s s') {t' : Tid} {c' : Call} (hinv : s'.hist = s.hist ++ [.inv t' c']) :
    (∀ t c r, s.hist.count (.ret t c r) ≤ s.lin.count (t, c, r)) ∧
    (∀ t c r, Event.ret t c r ∈ s.hist → (t, c, r) ∈ s.lin) ∧
    s'.lin = s.lin ∧
    s.lin.countP (fun x => x.1 == t') = s.hist.countP (isInvOf t') ∧
    s.th t' = .idle ∧ s'.th t' = .run c' (progOf ps c') .nothing none := by
  have hi := (phistInv_reachable h).1
  refine ⟨hi.ret_count, fun t c r => hi.ret_mem, ?_⟩
  cases hs with
  | invoke t c hp =>
    obtain ⟨rfl, rfl⟩ : t = t' ∧ c = c' := by simpa using hinv
    exact ⟨rfl, hi.inv_count_idle hp rfl, hp, setTh_self ..⟩
  | _ => simp at hinv

/-- Real-time order, state form, for every set of programs: for every invocation event
    (`hist = h1 ++ .inv t' c' :: h3`), `lin` splits as `l1 ++ l2` such that every return in `h1` has its entry
    in `l1` (with multiplicity) and `l1` holds exactly as many entries of `t'` as `t'` had earlier invocations;
    hence the entry of this invocation, if it exists yet, lies in `l2`, after the entries of all calls that
    returned before it was invoked. -/
theorem preal_time {ps : Progs} {m0 : Map} {s : PState} (h : PReachable ps m0 s)
    {h1 h3 : List Event} {t' : Tid} {c' : Call} (hh : s.hist = h1 ++ Event.inv t' c' :: h3) :
    ∃ l1 l2, s.lin = l1 ++ l2 ∧
      (∀ t c r, h1.count (.ret t c r) ≤ l1.count (t, c, r)) ∧
      (∀ t c r, Event.ret t c r ∈ h1 → (t, c, r) ∈ l1) ∧
      l1.countP (fun x => x.1 == t') = h1.countP (isInvOf t') ∧
      l2.countP (fun x => x.1 == t') + (if ppending (s.th t') = true then 1 else 0)
        = (Event.inv t' c' :: h3).countP (isInvOf t') := by
  rw [ppending_eq]; exact (phistInv_reachable h).real_time hh

/-- `lin` is a sequential history that agrees with `hist` thread by thread. -/
theorem pthread_projection {ps : Progs} {m0 : Map} {s : PState} (h : PReachable ps m0 s) (t : Tid) :
    s.hist.filterMap (invCall t) =
      (s.lin.filter (fun x => x.1 == t)).map (fun x => x.2.1) ++ (thCall (s.th t)).toList ∧
    s.hist.filterMap (retOf t) ++ (thRet (s.th t)).toList =
      (s.lin.filter (fun x => x.1 == t)).map (fun x => x.2) :=
  (phistInv_reachable h).1 t

/-! The rule `PStep.stmt` for each body statement, with `execStmt` and `contRest` unfolded. -/

section rules
variable {ps : Progs} (s : PState) (t : Tid) (c : Call) (rest : Prog) (pend : Pend)

theorem PStep.ifExistsRetFalse_hit (w : Svc) (h : s.th t = .run c (.ifExistsRetFalse :: rest) pend none)
    (hg : get s.mem (keyOf c) = some w) :
    PStep ps s { s with th := setTh s.th t (.run c [] pend (some (.bool false))) }:= by
  simpa only [execStmt, hg, contRest] using PStep.stmt (ps := ps) s t c .ifExistsRetFalse rest pend h rfl

theorem PStep.ifExistsRetFalse_miss (h : s.th t = .run c (.ifExistsRetFalse :: rest) pend none)
    (hg : get s.mem (keyOf c) = none) :
    PStep ps s { s with th := setTh s.th t (.run c rest pend none) }:= by
  simpa only [execStmt, hg, contRest] using PStep.stmt (ps := ps) s t c .ifExistsRetFalse rest pend h rfl

theorem PStep.ifExistsRetLoaded_hit (w : Svc) (h : s.th t = .run c (.ifExistsRetLoaded :: rest) pend none)
    (hg : get s.mem (keyOf c) = some w) :
    PStep ps s { s with th := setTh s.th t (.run c [] pend (some (.svc (some w)))) }:= by
  simpa only [execStmt, hg, contRest] using PStep.stmt (ps := ps) s t c .ifExistsRetLoaded rest pend h rfl

theorem PStep.ifExistsRetLoaded_miss (h : s.th t = .run c (.ifExistsRetLoaded :: rest) pend none)
    (hg : get s.mem (keyOf c) = none) :
    PStep ps s { s with th := setTh s.th t (.run c rest pend none) }:= by
  simpa only [execStmt, hg, contRest] using PStep.stmt (ps := ps) s t c .ifExistsRetLoaded rest pend h rfl

theorem PStep.store_rule (h : s.th t = .run c (.store :: rest) pend none) :
    PStep ps s { s with mem := insert s.mem (keyOf c) (valOf c),
                        th := setTh s.th t (.run c rest pend none) } :=
  PStep.stmt s t c .store rest pend h rfl

theorem PStep.delete_rule (h : s.th t = .run c (.delete :: rest) pend none) :
    PStep ps s { s with mem := erase s.mem (keyOf c), th := setTh s.th t (.run c rest pend none) } :=
  PStep.stmt s t c .delete rest pend h rfl

theorem PStep.replace_rule (h : s.th t = .run c (.replace :: rest) pend none) :
    PStep ps s { s with mem := [], th := setTh s.th t (.run c rest pend none) } :=
  PStep.stmt s t c .replace rest pend h rfl

theorem PStep.retTrue_rule (h : s.th t = .run c (.retTrue :: rest) pend none) :
    PStep ps s { s with th := setTh s.th t (.run c [] pend (some (.bool true))) } :=
  PStep.stmt s t c .retTrue rest pend h rfl

theorem PStep.retFalse_rule (h : s.th t = .run c (.retFalse :: rest) pend none) :
    PStep ps s { s with th := setTh s.th t (.run c [] pend (some (.bool false))) } :=
  PStep.stmt s t c .retFalse rest pend h rfl

theorem PStep.retNone_rule (h : s.th t = .run c (.retNone :: rest) pend none) :
    PStep ps s { s with th := setTh s.th t (.run c [] pend (some (.svc none))) } :=
  PStep.stmt s t c .retNone rest pend h rfl

/-- falling off the end of a program with `defer mu.Unlock()` pending: the call returns `.unit` -/
theorem PStep.unlock_at_end (h : s.th t = .run c [] .X none) :
    PStep ps s { s with lock := .free, th := setTh s.th t (.ret c .unit), lin := s.lin ++ [(t, c, .unit)] } :=
  PStep.unlock s t c [] none .unit h rfl

end rules

def th2 (p1 p0 : TSt) : Tid → TSt := fun u => if u = 1 then p1 else if u = 0 then p0 else .idle

/-- thread 1 has completed `Registry(5 ↦ 7)` (returned true); thread 0 is inside `Get(5)`, has
    loaded `some 7`, and still holds the read lock (deferred `RUnlock` pending); thread 1 has
    invoked `Remove(5)` and waits for the lock. -/
def pdemo : PState :=
  { lock := .shared [0], mem := [(5, 7)],
    th := th2 (.run (.remove 5) [.lock, .deferUnlock, .delete] .nothing none)
              (.run (.get 5) [] .S (some (.svc (some 7)))),
    hist := [.inv 1 (.reg 5 7), .ret 1 (.reg 5 7) (.bool true), .inv 0 (.get 5), .inv 1 (.remove 5)],
    lin := [(1, .reg 5 7, .bool true)] }

/-- thread 1 is inside `Registry(5 ↦ 7)`: it holds the write lock, has passed the check and is
    about to store -/
def pdemoW : PState :=
  { lock := .excl 1, mem := [],
    th := th2 (.run (.reg 5 7) [.store, .retTrue] .X none) .idle,
    hist := [.inv 1 (.reg 5 7)], lin := [] }

theorem pdemoW_reachable : PReachable pinnedProgs [] pdemoW := by
  have h := ((((PReachable.init (ps := pinnedProgs) (m0 := [])).step
    (.invoke _ 1 (.reg 5 7) rfl)).step
    (.lock _ 1 _ _ _ rfl rfl)).step
    (.deferUnlock _ 1 _ _ _ rfl)).step
    (PStep.ifExistsRetFalse_miss _ 1 _ _ _ rfl rfl)
  -- the run ends in `pdemoW`: every field by evaluation, the thread map through its values at 1, 0 and elsewhere
  refine cast (congrArg (PReachable pinnedProgs []) ?_) h
  unfold pdemoW
  congr 1
  refine eq_two rfl rfl fun u e1 _ => ?_
  simp only [setTh, e1, ↓reduceIte, pinit]

/-- non-vacuity for `pwrite_needs_lock`: a reachable state with a writer inside and
    a step that changes the map -/
example : wIn pinnedProgs (pdemoW.th 1) = true ∧ pdemoW.lock = .excl 1 ∧
    ∃ s', PStep pinnedProgs pdemoW s' ∧ s'.mem ≠ pdemoW.mem :=
  ⟨rfl, rfl, _, PStep.stmt pdemoW 1 (.reg 5 7) .store [.retTrue] .X rfl rfl, by decide⟩

theorem pdemo_reachable : PReachable pinnedProgs [] pdemo := by
  have h := (((((((((pdemoW_reachable.step
    (PStep.store_rule _ 1 _ _ _ rfl)).step
    (PStep.retTrue_rule _ 1 _ _ _ rfl)).step
    (.unlock _ 1 _ _ _ (.bool true) rfl rfl)).step
    (.return _ 1 _ _ rfl)).step
    (.invoke _ 0 (.get 5) rfl)).step
    (.rlockFree _ 0 _ _ _ rfl rfl)).step
    (.deferRUnlock _ 0 _ _ _ rfl)).step
    (PStep.ifExistsRetLoaded_hit _ 0 _ _ _ 7 rfl rfl)).step
    (.invoke _ 1 (.remove 5) rfl))
  refine cast (congrArg (PReachable pinnedProgs []) ?_) h
  unfold pdemo
  congr 1
  refine eq_two rfl rfl fun u e1 e0 => ?_
  simp only [setTh, pdemoW, th2, e1, e0, ↓reduceIte]

/-- non-vacuity for `pmutual_exclusion` / `plinearizable` / `pinned_linearizable`: their hypotheses hold on
    `pdemo`, a reader is inside, a writer waits outside, one call has been linearised, and the reader is at
    its release point with the specification's answer -/
example : wellBracketed pinnedProgs = true ∧ PReachable pinnedProgs [] pdemo ∧
    rIn pinnedProgs (pdemo.th 0) = true ∧ wIn pinnedProgs (pdemo.th 1) = false ∧
    pdemo.lin.map (fun x => x.2.1) = [.reg 5 7] ∧
    runSpec [] [.reg 5 7] = ([(5, 7)], [.bool true]) ∧
    finished [] (some (Res.svc (some 7))) = some (.svc (some 7)) ∧
    spec [(5, 7)] (.get 5) = ([(5, 7)], .svc (some 7)) :=
  ⟨wellBracketed_pinned, pdemo_reachable, rfl, rfl, rfl, rfl, rfl, rfl⟩

example : pdemo.mem = (runSpec [] (pdemo.lin.map (fun x => x.2.1))).1 :=
  (pinned_linearizable pdemo_reachable).2.2.1 [0] rfl

/-- non-vacuity for the real-time order: the hypotheses of `preal_time` hold on `pdemo`, and the
    returned call's entry is in the part of `lin` before the cut -/
example : ∃ l1 l2, pdemo.lin = l1 ++ l2 ∧ (1, Call.reg 5 7, Res.bool true) ∈ l1 := by
  obtain ⟨l1, l2, e, _, hm, _⟩ := preal_time pdemo_reachable
    (h1 := [.inv 1 (.reg 5 7), .ret 1 (.reg 5 7) (.bool true)]) (t' := 0) (c' := .get 5)
    (h3 := [.inv 1 (.remove 5)]) rfl
  exact ⟨l1, l2, e, hm 1 _ _ (by simp)⟩

/-- a concrete invoke step satisfying the hypotheses of `pret_before_inv_lin` -/
example : ∃ s', PStep pinnedProgs pdemo s' ∧ s'.hist = pdemo.hist ++ [.inv 2 .clear] :=
  ⟨_, PStep.invoke pdemo 2 .clear (by simp [pdemo, th2]), rfl⟩

/-- for reachable states of well-bracketed programs, `wIn` / `rIn` ("has executed its `lock` /
    `rlock` and not yet its deferred unlock") can be read off the thread state alone: a deferred
    unlock is registered, or the next statement is the `defer` right after the lock. -/
theorem in_eq_holds {ps : Progs} (hwb : wellBracketed ps = true) {m0 : Map} {s : PState}
    (h : PReachable ps m0 s) (t : Tid) {c : Call} {rest : Prog} {pend : Pend} {res : Option Res}
    (ht : s.th t = .run c rest pend res) :
    wIn ps (s.th t) = (pend == .X || rest.head? == some .deferUnlock) ∧
    rIn ps (s.th t) = (pend == .S || rest.head? == some .deferRUnlock) := by
  obtain ⟨w, body, hp, hall, hpos⟩ := at_of_eq (sInv_reachable hwb h).1 ht
  rw [ht]
  rcases hpos with ⟨h1, h2, -⟩ | ⟨h1, h2, -⟩ | ⟨h1, h2⟩
  · rw [h1, (in_start ..).1, (in_start ..).2, hp, h2]
    cases w <;> exact ⟨rfl, rfl⟩
  · obtain ⟨hw, hr⟩ := in_of_short (rest := rest) (pend := pend) (res := res) hp (by rw [h1]; exact Nat.le_refl _)
    rw [hw, hr, h1, h2]
    cases w <;> exact ⟨rfl, rfl⟩
  · obtain ⟨hw, hr⟩ := in_of_short (rest := rest) (pend := pend) (res := res) hp (Nat.le_succ_of_le h1.length_le)
    -- in the body no statement is a `defer`: both look-ups of the head fail
    have hd : ∀ w', (rest.head? == some (deferOf w')) = false := fun w' =>
      Bool.eq_false_iff.2 fun hb => by
        have := hall _ (h1.subset (List.mem_of_mem_head? (eq_of_beq hb)))
        rw [(not_okIn_lock w' w).2.1] at this
        cases this
    rw [hw, hr, h2, show (rest.head? == some .deferUnlock) = false from hd true,
      show (rest.head? == some .deferRUnlock) = false from hd false]
    cases w <;> exact ⟨rfl, rfl⟩

/-- With `Registry` running its check-then-insert under the READ lock (`badRegShared`, rejected by
    `wellBracketed`), two goroutines registering the same name can both pass the check and both
    return `true`; no atomic execution does that.  So the hypothesis `wellBracketed ps` of
    `plinearizable` cannot be dropped. -/
theorem badRegShared_not_linearizable :
    ∃ s, PReachable badRegShared [] s ∧
      s.lin = [(0, .reg 5 7, .bool true), (1, .reg 5 9, .bool true)] ∧
      (runAtomic badRegShared [] (s.lin.map (fun x => x.2.1))).2 = [.bool true, .bool false] ∧
      (runAtomic badRegShared [] (s.lin.map (fun x => x.2.1))).2 ≠ s.lin.map (fun x => x.2.2) := by
  have h := ((((((((((((((PReachable.init (ps := badRegShared) (m0 := [])).step
    (.invoke _ 0 (.reg 5 7) rfl)).step
    (.rlockFree _ 0 _ _ _ rfl rfl)).step
    (.deferRUnlock _ 0 _ _ _ rfl)).step
    (PStep.ifExistsRetFalse_miss _ 0 _ _ _ rfl rfl)).step
    (.invoke _ 1 (.reg 5 9) rfl)).step
    (.rlockShared _ 1 _ _ _ [0] rfl rfl)).step
    (.deferRUnlock _ 1 _ _ _ rfl)).step
    -- the second goroutine passes the check too: the first has not stored yet
    (PStep.ifExistsRetFalse_miss _ 1 _ _ _ rfl rfl)).step
    (PStep.store_rule _ 0 _ _ _ rfl)).step
    (PStep.store_rule _ 1 _ _ _ rfl)).step
    (PStep.retTrue_rule _ 0 _ _ _ rfl)).step
    (.runlock _ 0 _ _ _ (.bool true) [1, 0] rfl rfl rfl)).step
    (PStep.retTrue_rule _ 1 _ _ _ rfl)).step
    (.runlock _ 1 _ _ _ (.bool true) [1] rfl rfl rfl)
  exact ⟨_, h, rfl, by decide, by decide⟩

end FinProto.Reg
