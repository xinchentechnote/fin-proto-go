/-
  The decidable side conditions of `Checks.lean`, and `Env.hdrsOK` beside them: what each of them says about one
  stored type, one statement or one table entry, and what `mirrorOK` relates (`Op.eraseG`).
-/
import FinProto.Checks
namespace FinProto

/-- `isFrame` walks the type list once per reference, which makes `decide` on `framesTop` slow for a schema
    with hundreds of table entries; looking the reference up among the few frame ids is the same test
    (`Env.framesTop_eq`) -/
def Env.frameIds (env : Env) : List Nat :=
  env.types.zipIdx.filterMap fun p => if p.1.frame.isSome then some p.2 else none

theorem Env.isFrame_eq (env : Env) (ty : Nat) : env.isFrame ty = env.frameIds.contains ty := by
  rw [Bool.eq_iff_iff, List.contains_iff_mem]
  simp only [Env.isFrame, Env.frameIds, List.mem_filterMap, Prod.exists, List.mem_zipIdx_iff_getElem?]
  constructor
  · intro h
    cases htd : env.types[ty]? with
    | none => simp [htd] at h
    | some td => rw [htd] at h; exact ⟨td, ty, htd, by rw [if_pos h]⟩
  · rintro ⟨td, i, htd, h⟩
    split at h
    · cases h; rw [htd]; assumption
    · cases h

theorem Env.framesTop_eq (env : Env) :
    env.framesTop =
      (env.tables.all (fun t => t.all (fun kv => !env.frameIds.contains kv.2)) &&
       env.types.all (fun td => (td.dec ++ td.enc).all (fun op =>
        match op with
        | .nested ty _ => !env.frameIds.contains ty
        | .objs _ ty _ => !env.frameIds.contains ty
        | _ => true))) := by
  simp only [Env.framesTop, Env.isFrame_eq]
  rfl

theorem Env.mem_types {env : Env} {ty : Nat} {td : TyDef} (h : env.types[ty]? = some td) : td ∈ env.types :=
  List.mem_of_getElem? h

theorem lookupKey_pair_mem {k : Key} {l : List (Key × Nat)} {t : Nat} (h : lookupKey k l = some t) : (k, t) ∈ l := by
  induction l with
  | nil => cases h
  | cons p ps ih =>
    obtain ⟨k', t'⟩ := p
    simp only [lookupKey] at h
    split at h
    · rename_i hk
      cases h
      cases hk
      exact List.mem_cons_self ..
    · exact List.mem_cons_of_mem _ (ih h)

theorem lookupKey_mem {k : Key} {l : List (Key × Nat)} {t : Nat} (h : lookupKey k l = some t) :
    ∃ k', (k', t) ∈ l :=
  ⟨k, lookupKey_pair_mem h⟩

theorem lookupKey_eq_none {k : Key} {l : List (Key × Nat)} (h : ∀ kv ∈ l, kv.1 ≠ k) :
    lookupKey k l = none := by
  cases hl : lookupKey k l with
  | none => rfl
  | some t => exact absurd rfl (h _ (lookupKey_pair_mem hl))

theorem unionTy_mem {env : Env} {key tbl : Nat} {all : List Val} {t : Nat}
    (h : unionTy env key tbl all = some t) : ∃ tb k, env.tables[tbl]? = some tb ∧ (k, t) ∈ tb := by
  simp only [unionTy, Option.bind_eq_some_iff, Env.lookup] at h
  obtain ⟨k, _, hk⟩ := h
  split at hk
  · rename_i tb htb
    exact ⟨tb, k, htb, List.mem_reverse.mp (lookupKey_pair_mem hk)⟩
  · cases hk

theorem Op.isScalar_iff {op : Op} : op.isScalar = true ↔ ∃ w e, op = .scalar w e := by
  cases op <;> simp [Op.isScalar]

theorem Env.isFrame_of {env : Env} {ty : Nat} {td : TyDef} (h : env.types[ty]? = some td) :
    env.isFrame ty = td.frame.isSome := by
  simp only [Env.isFrame, h]

theorem Env.frame_eq_none {env : Env} {ty : Nat} {td : TyDef} (htd : env.types[ty]? = some td)
    (h : env.isFrame ty = false) : td.frame = none := by
  rw [Env.isFrame_of htd] at h
  exact Option.isNone_iff_eq_none.mp (Option.isSome_eq_false_iff.mp h)

/-- the prefix widths `widthsOK` admits keep `int(prefix)` non-negative (`256^7 < 2^63`) -/
theorem width124_le_seven {w : Nat} (h : (w == 1 || w == 2 || w == 4) = true) : w ≤ 7 := by
  simp only [Bool.or_eq_true, beq_iff_eq] at h
  omega

theorem Env.mirrorOK_plain {env : Env} (hm : env.mirrorOK = true) {ty : Nat} {td : TyDef}
    (htd : env.types[ty]? = some td) (hfr : td.frame = none) :
    td.enc.map Op.eraseG = td.dec.map Op.eraseG ∧ td.enc.length = td.nfields := by
  have h := List.all_eq_true.mp hm td (Env.mem_types htd)
  simpa only [TyDef.mirrorOK, hfr, Bool.and_eq_true, beq_iff_eq] using h

theorem Env.mirrorOK_frame {env : Env} (hm : env.mirrorOK = true) {ty : Nat} {td : TyDef} {fd : FrameDesc}
    (htd : env.types[ty]? = some td) (hfr : td.frame = some fd) :
    td.dec.map Op.eraseG = fd.decOps.map Op.eraseG ∧ td.dec.length = td.nfields ∧
      (∀ op ∈ fd.hdr, op.isScalar = true) ∧ fd.key < fd.hdr.length ∧ fd.lenW = 4 ∧
      ∀ a w, fd.cks = some (a, w) → w = 4 := by
  have h := List.all_eq_true.mp hm td (Env.mem_types htd)
  simp only [TyDef.mirrorOK, hfr, Bool.and_eq_true, beq_iff_eq, decide_eq_true_eq, List.all_eq_true] at h
  obtain ⟨⟨⟨⟨⟨hdec, hlen⟩, hscal⟩, hkey⟩, hw⟩, hcks⟩ := h
  refine ⟨hdec, hlen, hscal, hkey, hw, fun a w hc => ?_⟩
  simp only [hc, Bool.and_eq_true, beq_iff_eq] at hcks
  exact hcks.1

theorem Env.widthsOK_at {env : Env} (hw : env.widthsOK = true) {ty : Nat} {td : TyDef}
    (htd : env.types[ty]? = some td) :
    (∀ op ∈ td.dec, op.widthsOK = true) ∧ (∀ op ∈ td.enc, op.widthsOK = true) ∧
      ∀ fd, td.frame = some fd → ∀ op ∈ fd.hdr, op.widthsOK = true := by
  have h := List.all_eq_true.mp hw td (Env.mem_types htd)
  simp only [Bool.and_eq_true, List.all_eq_true] at h
  refine ⟨h.1.1, h.1.2, fun fd hfr => ?_⟩
  have h2 := h.2
  simpa only [hfr, List.all_eq_true] using h2

theorem Env.keysOK_at {env : Env} (hk : env.keysOK = true) {ty : Nat} {td : TyDef}
    (htd : env.types[ty]? = some td) : keysEarlier td.dec = true :=
  List.all_eq_true.mp hk td (Env.mem_types htd)

theorem Env.guardsOK_at {env : Env} (hg : env.guardsOK = true) {ty : Nat} {td : TyDef}
    (htd : env.types[ty]? = some td) :
    (∀ op ∈ td.enc, op.guardOK = true) ∧ ∀ fd, td.frame = some fd → fd.g ≠ .none := by
  have h := List.all_eq_true.mp hg td (Env.mem_types htd)
  simp only [Bool.and_eq_true, List.all_eq_true] at h
  refine ⟨h.1, fun fd hfr hn => ?_⟩
  have h2 := h.2
  simp [hfr, hn] at h2

theorem Env.refsOK_at {env : Env} (hr : env.refsOK = true) {ty : Nat} {td : TyDef}
    (htd : env.types[ty]? = some td) :
    (∀ op ∈ td.dec, op.refsOK env = true) ∧ ∀ op ∈ td.enc, op.refsOK env = true := by
  simp only [Env.refsOK, Bool.and_eq_true, List.all_eq_true] at hr
  exact hr.1 td (Env.mem_types htd)

/-- the header statements of every self-measuring frame are guarded and refer to existing types
    (`guardsOK`/`refsOK` look at `enc`/`dec` only; a frame type's encoder runs `fd.hdr` instead).
    Implied by `mirrorOK`, which forces header statements to be scalars. -/
def Env.hdrsOK (env : Env) : Bool :=
  env.types.all (fun td =>
    match td.frame with
    | some fd => fd.hdr.all (fun op => op.guardOK && op.refsOK env)
    | none => true)

theorem hdrsOK_of_mirrorOK {env : Env} (hm : env.mirrorOK = true) : env.hdrsOK = true := by
  simp only [Env.hdrsOK, List.all_eq_true]
  intro td hmem
  obtain ⟨ty, htd⟩ := List.getElem?_of_mem hmem
  split
  · rename_i fd hfr
    simp only [List.all_eq_true, Bool.and_eq_true]
    intro op hop
    obtain ⟨w, e, rfl⟩ := Op.isScalar_iff.mp ((Env.mirrorOK_frame hm htd hfr).2.2.1 op hop)
    exact ⟨rfl, rfl⟩
  · rfl

/-- what `elemsOK` asks of one statement (its inner `match`, under a name) -/
def Op.elemOK (env : Env) : Op → Bool
  | .objs _ ty _ => decide (0 < minSizeTy env env.fuel ty)
  | .nums _ w _ => decide (0 < w)
  | .fixeds _ n _ _ _ => decide (0 < n)
  | .vstrs _ pw _ => decide (0 < pw)
  | _ => true

theorem Env.elemsOK_at {env : Env} (hE : env.elemsOK = true) {ty : Nat} {td : TyDef}
    (htd : env.types[ty]? = some td) : ∀ op ∈ td.dec, op.elemOK env = true :=
  List.all_eq_true.mp (List.all_eq_true.mp hE td (Env.mem_types htd))

theorem Env.refsOK_unionTy {env : Env} (hr : env.refsOK = true) {key tbl : Nat} {all : List Val} {t : Nat}
    (h : unionTy env key tbl all = some t) : t < env.types.length := by
  obtain ⟨tb, k, htb, hk⟩ := unionTy_mem h
  simp only [Env.refsOK, Bool.and_eq_true, List.all_eq_true, decide_eq_true_eq] at hr
  exact hr.2 tb (List.mem_of_getElem? htb) (k, t) hk

/-- what `framesTop` asks of one statement (its inner `match`, under a name) -/
def Op.noFrame (env : Env) : Op → Bool
  | .nested ty _ => !env.isFrame ty
  | .objs _ ty _ => !env.isFrame ty
  | _ => true

theorem Op.noFrame_of_isScalar {env : Env} {op : Op} (h : op.isScalar = true) : op.noFrame env = true := by
  obtain ⟨w, e, rfl⟩ := Op.isScalar_iff.mp h
  rfl

theorem Env.framesTop_at {env : Env} (ht : env.framesTop = true) {ty : Nat} {td : TyDef}
    (htd : env.types[ty]? = some td) :
    (∀ op ∈ td.dec, op.noFrame env = true) ∧ ∀ op ∈ td.enc, op.noFrame env = true := by
  have h : ∀ op ∈ td.dec ++ td.enc, op.noFrame env = true :=
    List.all_eq_true.mp (List.all_eq_true.mp (Bool.and_eq_true_iff.mp ht).2 td (Env.mem_types htd))
  exact ⟨fun op hop => h op (List.mem_append_left _ hop), fun op hop => h op (List.mem_append_right _ hop)⟩

theorem Env.framesTop_unionTy {env : Env} (ht : env.framesTop = true) {key tbl : Nat} {all : List Val} {t : Nat}
    (h : unionTy env key tbl all = some t) : env.isFrame t = false := by
  obtain ⟨tb, k, htb, hk⟩ := unionTy_mem h
  simp only [Env.framesTop, Bool.and_eq_true, List.all_eq_true, Bool.not_eq_true'] at ht
  exact ht.1 tb (List.mem_of_getElem? htb) (k, t) hk

theorem decOp_eraseG (env : Env) (dT : Nat → R Val) (acc : List Val) (op : Op) :
    decOp env dT acc op.eraseG = decOp env dT acc op := by
  cases op <;> rfl

theorem decSeq_map_eraseG (env : Env) (dT : Nat → R Val) (ops : List Op) (acc : List Val) :
    decSeq (decOp env dT) (ops.map Op.eraseG) acc = decSeq (decOp env dT) ops acc := by
  induction ops generalizing acc with
  | nil => rfl
  | cons op ops ih =>
    simp only [List.map_cons, decSeq, decOp_eraseG]
    congr 1
    funext v
    exact ih (acc ++ [v])

theorem decSeq_eraseG (env : Env) (dT : Nat → R Val) (ops ops' : List Op) (acc : List Val)
    (h : ops'.map Op.eraseG = ops.map Op.eraseG) :
    decSeq (decOp env dT) ops' acc = decSeq (decOp env dT) ops acc := by
  rw [← decSeq_map_eraseG, h, decSeq_map_eraseG]

end FinProto
