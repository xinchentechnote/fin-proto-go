/-
  C03/C04 on the path where `codec.Get` finds no checksum service: `encFrameNS` / `encodeNS` of NoSvc.lean append
  the ordinary frame up to the trailer, and the trailer is the checksum the caller left in the field.
-/
import FinProto.NoSvc
import FinProto.Props.EncLemmas
namespace FinProto

/-- With no service registered the frame is byte for byte the ordinary frame up to the trailer, and the trailer is
    the caller-supplied checksum in the frame's own byte order (C03 on that path; C04's length is untouched). -/
theorem encFrameNS_spec (env : Env) (encTy : Nat → Val → E Val) (zero : Nat → Val) (fd : FrameDesc) (ty : Nat)
    (fields : List Val) (buf out : Bytes) (v : Val) (alg : Alg) (w c : Nat)
    (h : encFrame env encTy zero fd ty fields buf = .ok (v, out))
    (hc : fd.cks = some (alg, w)) (hf : fields[fd.hdr.length + 2]? = some (.num c)) :
    ∃ b4 v', encFrameNS env encTy zero fd ty fields buf = .ok (v', b4 ++ toE fd.e w c) ∧
      out = b4 ++ toE fd.e w (cksNat alg (b4.drop buf.length)) := by
  -- `encTy` is a variable of this lemma (it need not append only), so `encFrame_eq_lift` / `frameW` do not apply to it:
  -- the successful run of `encFrame` is taken apart step by step and replayed in `encFrameNS`
  unfold encFrame at h
  obtain ⟨⟨hv, b1⟩, h1, h⟩ := Outcome.bind_eq_ok.1 h
  dsimp only at h
  split at h
  · cases h
  · next body hb =>
    obtain ⟨⟨body', b3⟩, h2, h⟩ := Outcome.bind_eq_ok.1 h
    simp only [hc] at h
    split at h
    · next hl =>
      injection h with h
      injection h with _ hout
      exact ⟨_, _, by simp only [encFrameNS, h1, Outcome.bind_ok, hb, h2, hc, hf, hl, if_true]; rfl, hout.symm⟩
    · cases h

/-- the same, for the whole `Encode` of a checksummed frame type -/
theorem encodeNS_spec (env : Env) (ty : Nat) (fields : List Val) (td : TyDef) (fd : FrameDesc) (buf out : Bytes) (v : Val)
    (alg : Alg) (w c : Nat)
    (ht : env.types[ty]? = some td) (hfr : td.frame = some fd)
    (h : encode env (.msg ty fields) buf = .ok (v, out))
    (hc : fd.cks = some (alg, w)) (hf : fields[fd.hdr.length + 2]? = some (.num c)) :
    ∃ b4 v', encodeNS env (.msg ty fields) buf = .ok (v', b4 ++ toE fd.e w c) ∧
      out = b4 ++ toE fd.e w (cksNat alg (b4.drop buf.length)) := by
  have h' : encFrame env (encTy env (env.fuel - 1)) (zeroTy env (env.fuel - 1)) fd ty fields buf = .ok (v, out) := by
    rw [← encTy_frame fields ht hfr]
    exact h
  simp only [encodeNS, ht, hfr]
  exact encFrameNS_spec env _ _ fd ty fields buf out v alg w c h' hc hf

/-- C04 / C06 on the path without a checksum service: the bytes appended are the ordinary frame (header, body length patched to
    the body's size, body) followed by the caller's checksum in the frame's byte order; nothing before `pre` changes. -/
theorem encFrameNS_frame {env : Env} {f ty : Nat} {td : TyDef} {fd : FrameDesc} {fields : List Val}
    {pre out : Bytes} {v' : Val} {alg : Alg} {w c : Nat}
    (htd : env.types[ty]? = some td) (hfr : td.frame = some fd) (hc : fd.cks = some (alg, w))
    (hf : fields[fd.hdr.length + 2]? = some (.num c))
    (h : encTy env (f + 1) ty (.msg ty fields) pre = .ok (v', out)) :
    ∃ hdrBytes bodyBytes v'',
      encFrameNS env (encTy env f) (zeroTy env f) fd ty fields pre
        = .ok (v'', pre ++ frameBytes fd hdrBytes bodyBytes ++ toE fd.e w c) := by
  obtain ⟨hv, hb, body, body', bb, h1, h2, h3, hout, _⟩ := frame_cks_exact htd hfr hc h
  have h' : encFrame env (encTy env f) (zeroTy env f) fd ty fields pre = .ok (v', out) := by
    rwa [encTy_frame fields htd hfr] at h
  obtain ⟨b4, v'', hns, hb4⟩ := encFrameNS_spec env _ _ fd ty fields pre out v' alg w c h' hc hf
  refine ⟨hb, bb, v'', ?_⟩
  -- both descriptions of `out` end in a `w`-byte trailer: the parts before it are equal
  rw [hns, ← (List.append_inj' (hout.symm.trans hb4) (by rw [toE_length, toE_length])).1]

end FinProto
