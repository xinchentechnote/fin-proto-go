/-
  The reader/writer lock word against "who is inside", for any type `σ` of thread states: `W x` / `R x`
  say that a thread in state `x` is inside a write- / read-locked region.  A step of one thread `t` is a
  point update `upd st t x` (`setPc` and `setTh` unfold to it); the invariant is kept by six kinds of step.
-/
import FinProto.Registry
namespace FinProto.Reg

section
variable {σ : Type} {W R : σ → Bool} {st : Tid → σ} {l : Lock} {t : Tid} {x y : σ}

def LockOK (W R : σ → Bool) (st : Tid → σ) : Lock → Prop
  | .free => ∀ u, W (st u) = false ∧ R (st u) = false
  | .excl t => (W (st t) = true ∧ R (st t) = false) ∧ ∀ u, u ≠ t → W (st u) = false ∧ R (st u) = false
  | .shared ts => ts.Nodup ∧ ts ≠ [] ∧ (∀ u, R (st u) = true ↔ u ∈ ts) ∧ ∀ u, W (st u) = false

theorem LockOK.free (h : LockOK W R st l) (hl : l = .free) : ∀ u, W (st u) = false ∧ R (st u) = false := by
  subst hl; exact h

theorem LockOK.excl (h : LockOK W R st l) (hl : l = .excl t) :
    (W (st t) = true ∧ R (st t) = false) ∧ ∀ u, u ≠ t → W (st u) = false ∧ R (st u) = false := by
  subst hl; exact h

theorem LockOK.shared (h : LockOK W R st l) {ts : List Tid} (hl : l = .shared ts) :
    ts.Nodup ∧ ts ≠ [] ∧ (∀ u, R (st u) = true ↔ u ∈ ts) ∧ ∀ u, W (st u) = false := by
  subst hl; exact h

theorem LockOK.of_W (h : LockOK W R st l) (e : st t = y) (ht : W y = true) : l = .excl t := by
  subst e
  cases l with
  | free => rw [(h t).1] at ht; cases ht
  | excl t' =>
    by_cases e : t = t'
    · rw [e]
    · rw [(h.2 t e).1] at ht; cases ht
  | shared ts => rw [h.2.2.2 t] at ht; cases ht

theorem LockOK.of_R (h : LockOK W R st l) (e : st t = y) (ht : R y = true) : ∃ ts, l = .shared ts ∧ t ∈ ts := by
  subst e
  cases l with
  | free => rw [(h t).2] at ht; cases ht
  | excl t' =>
    by_cases e : t = t'
    · rw [e, h.1.2] at ht; cases ht
    · rw [(h.2 t e).2] at ht; cases ht
  | shared ts => exact ⟨ts, rfl, (h.2.2.1 t).1 ht⟩

theorem LockOK.alone (h : LockOK W R st l) (e : st t = y) (ht : W y = true) :
    ∀ u, u ≠ t → W (st u) = false ∧ R (st u) = false :=
  (h.excl (h.of_W e ht)).2

theorem LockOK.no_writer (h : LockOK W R st l) {ts : List Tid} (hl : l = .shared ts) : ∀ u, W (st u) = false :=
  (h.shared hl).2.2.2

/-- mutual exclusion, as both `mutual_exclusion` and `pmutual_exclusion` state it -/
theorem LockOK.mutex (h : LockOK W R st l) :
    (∀ t, W (st t) = true → l = .excl t ∧ ∀ u, u ≠ t → W (st u) = false ∧ R (st u) = false) ∧
    (∀ t, R (st t) = true →
        ∃ ts, l = .shared ts ∧ t ∈ ts ∧ ts.Nodup ∧
          (∀ u, R (st u) = true ↔ u ∈ ts) ∧ ∀ u, W (st u) = false) ∧
    (l = .free → ∀ u, W (st u) = false ∧ R (st u) = false) ∧
    (∀ t, l = .excl t → W (st t) = true) ∧
    (∀ ts, l = .shared ts → ts ≠ [] ∧ ts.Nodup ∧ ∀ u, u ∈ ts → R (st u) = true) := by
  refine ⟨fun t ht => ⟨h.of_W rfl ht, h.alone rfl ht⟩, fun t ht => ?_, h.free, fun t hl => (h.excl hl).1.1,
    fun ts hl => ?_⟩
  · obtain ⟨ts, hl, hm⟩ := h.of_R rfl ht
    obtain ⟨a, _, c, d⟩ := h.shared hl
    exact ⟨ts, hl, hm, a, c, d⟩
  · obtain ⟨a, b, c, _⟩ := h.shared hl
    exact ⟨b, a, fun u hu => (c u).2 hu⟩

def upd (st : Tid → σ) (t : Tid) (x : σ) : Tid → σ := fun u => if u = t then x else st u

theorem upd_self : upd st t x t = x := if_pos rfl
theorem upd_of_ne {u : Tid} (e : u ≠ t) : upd st t x u = st u := if_neg e

theorem upd_view {β : Type} (F : σ → β) (e : st t = y) (hF : F x = F y) (u : Tid) :
    F (upd st t x u) = F (st u) := by
  by_cases eu : u = t
  · rw [eu, upd_self, hF, e]
  · rw [upd_of_ne eu]

theorem at_of_eq {P : σ → Prop} (h : ∀ u, P (st u)) (e : st t = x) : P x := e ▸ h t

theorem forall_upd_of_ne {P : σ → Prop} (hx : P x) (h : ∀ u, u ≠ t → P (st u)) :
    ∀ u, P (upd st t x u) := by
  intro u
  by_cases e : u = t
  · rw [e, upd_self]
    exact hx
  · rw [upd_of_ne e]
    exact h u e

theorem forall_upd {P : σ → Prop} (h : ∀ u, P (st u)) (hx : P x) : ∀ u, P (upd st t x u) :=
  forall_upd_of_ne hx fun u _ => h u

/-- the conclusion of `write_needs_lock` and `pwrite_needs_lock` -/
theorem LockOK.owner_moves (h : LockOK W R st l) (e : st t = y) (hw : W y = true) (hx : x ≠ y) :
    ∃ t', l = .excl t' ∧ W (st t') = true ∧ upd st t x t' ≠ st t' ∧ ∀ u, u ≠ t' → upd st t x u = st u :=
  ⟨t, h.of_W e hw, e ▸ hw, by rw [upd_self, e]; exact hx, fun _ eu => upd_of_ne eu⟩

/- The six moves of `t` from state `y` to state `x` mirror `sync.RWMutex`: `same` is a step without a lock
   operation, `acqX` is `Lock()`, `acqS_free` / `acqS_shared` are `RLock()` on a free lock / on a lock held by
   readers, `relX` is `Unlock()`, `relS` is `RUnlock()` (the last reader out frees the lock). -/

theorem LockOK.same (h : LockOK W R st l) (e : st t = y) (hw : W x = W y) (hr : R x = R y) :
    LockOK W R (upd st t x) l := by
  cases l <;> simp only [LockOK, upd_view W e hw, upd_view R e hr] <;> exact h

theorem LockOK.acqX (h : LockOK W R st l) (hl : l = .free) (hw : W x = true) (hr : R x = false) :
    LockOK W R (upd st t x) (.excl t) := by
  refine ⟨by rw [upd_self]; exact ⟨hw, hr⟩, fun u e => ?_⟩
  rw [upd_of_ne e]
  exact h.free hl u

theorem LockOK.acqS_free (h : LockOK W R st l) (hl : l = .free) (hw : W x = false) (hr : R x = true) :
    LockOK W R (upd st t x) (.shared [t]) := by
  refine ⟨by simp, List.cons_ne_nil _ _, fun u => ?_,
    forall_upd (P := fun y => W y = false) (fun u => (h.free hl u).1) hw⟩
  by_cases e : u = t
  · simp [e, upd_self, hr]
  · simp [e, upd_of_ne, (h.free hl u).2]

theorem LockOK.acqS_shared {ts : List Tid} (h : LockOK W R st l) (hl : l = .shared ts) (e : st t = y)
    (hr0 : R y = false) (hw : W x = false) (hr : R x = true) : LockOK W R (upd st t x) (.shared (t :: ts)) := by
  obtain ⟨hnd, _, hiff, hW⟩ := h.shared hl
  have hnot : t ∉ ts := fun hm => by rw [← e, (hiff t).2 hm] at hr0; cases hr0
  refine ⟨List.nodup_cons.2 ⟨hnot, hnd⟩, List.cons_ne_nil _ _, fun u => ?_,
    forall_upd (P := fun y => W y = false) hW hw⟩
  by_cases e : u = t
  · simp [e, upd_self, hr]
  · simp [e, upd_of_ne, hiff u]

theorem LockOK.relX (h : LockOK W R st l) (hl : l = .excl t) (hw : W x = false) (hr : R x = false) :
    LockOK W R (upd st t x) .free :=
  forall_upd_of_ne (P := fun y => W y = false ∧ R y = false) ⟨hw, hr⟩ (h.excl hl).2

theorem LockOK.relS {ts : List Tid} (h : LockOK W R st l) (hl : l = .shared ts) (hw : W x = false)
    (hr : R x = false) :
    LockOK W R (upd st t x) (if ts.erase t = [] then .free else .shared (ts.erase t)) := by
  obtain ⟨hnd, _, hiff, hW⟩ := h.shared hl
  have hR : ∀ u, R (upd st t x u) = true ↔ u ∈ ts.erase t := by
    intro u; rw [hnd.mem_erase_iff]
    by_cases e : u = t
    · simp [e, upd_self, hr]
    · simp [e, upd_of_ne, hiff u]
  have hW' := forall_upd (t := t) (P := fun y => W y = false) hW hw
  split
  · next he =>
    rw [he] at hR
    exact fun u => ⟨hW' u, Bool.eq_false_iff.2 fun hu => List.not_mem_nil ((hR u).1 hu)⟩
  · next he => exact ⟨hnd.erase t, he, hR, hW'⟩

end

/-- `pc2` and `th2` unfold to the right side -/
theorem eq_two {σ : Type} {f : Tid → σ} {p1 p0 d : σ} (h1 : f 1 = p1) (h0 : f 0 = p0)
    (h : ∀ u, u ≠ 1 → u ≠ 0 → f u = d) : f = fun u => if u = 1 then p1 else if u = 0 then p0 else d := by
  funext u
  split
  · next e => rw [e, h1]
  · split
    · next e => rw [e, h0]
    · next e1 e0 => exact h u e1 e0

end FinProto.Reg
