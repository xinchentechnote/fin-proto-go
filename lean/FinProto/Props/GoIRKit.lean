/-
  Symbolic execution of GoIR: what `exec` does on each statement form and `evalE` on each expression form that occurs in
  the translated bodies, the frame of a call, one call of `runFn`, and Go's integer conversions on the ranges the codec
  uses.  The equations form the simp set `goir`: `simp only [goir, facts]` runs a piece of straight-line code on a state
  of which `facts` say what the slots hold.

  Two traps.  The equations are proved `by rfl`, not `:= rfl`: a theorem whose proof is the term `rfl` is used by `simp`
  as a definitional step that leaves no proof, and the kernel then has to find the step again by unfolding the compiled
  recursors of `exec` and `evalE`, which is slow.  For the same reason `exec` and `evalE` themselves are never given to
  `simp` or to the attribute, which would mark them for unfolding; and `simp only [exec, evalE]` would in addition build a
  simp set from all their equations at every call.  The functions that are not recursive (`resolve`, `lenV`, `elems`,
  `appendV`) have their equations here constructor by constructor and are not given to `simp` either, because unfolding
  them on a variable destroys the hypotheses that speak of them.  Where a lemma asks for the value of one of these
  functions on the literal arguments of a call (`resolveAll targs tas = some tas'`, `evalArgs targs s args = some vs`),
  `rfl` gives it.
-/
import FinProto.GoIRSpec
import FinProto.Props.GoIRAttr
namespace FinProto.GoIR
open FinProto

attribute [goir] St.set_buf St.set_loc St.setOpt_none St.setOpt_some Option.bind_some Option.map_some
  List.getElem?_cons_zero List.getElem?_cons_succ if_true if_false and_self

section
variable (ext : Ext O) (callee : Nat → List Ty → List (V O) → Bytes → CallRes O) (lf : Nat) (targs : List Ty)

@[goir] theorem exec.skip (s : St O) : exec ext callee lf targs .skip s = .norm s := by rfl

@[goir] theorem exec.seq (a b : Stmt) (s : St O) :
    exec ext callee lf targs (.seq a b) s =
      match exec ext callee lf targs a s with
      | .norm s1 => exec ext callee lf targs b s1
      | r => r := by rfl

@[goir] theorem exec.set (x : Nat) (e : Expr) (s : St O) :
    exec ext callee lf targs (.set x e) s =
      match evalE targs s e with
      | some v => .norm (s.set x v)
      | none => .panic := by rfl

theorem exec.seq_assoc (a b c : Stmt) (s : St O) :
    exec ext callee lf targs (.seq (.seq a b) c) s = exec ext callee lf targs (.seq a (.seq b c)) s := by
  simp only [exec.seq]
  cases exec ext callee lf targs a s <;> rfl

@[goir] theorem exec.makeBytes (x : Nat) (n : Expr) (s : St O) :
    exec ext callee lf targs (.makeBytes x n) s =
      match evalE targs s n with
      | some (.int k) => if 0 ≤ k then .norm (s.set x (.bytes (List.replicate k.toNat 0))) else .panic
      | _ => .panic := by rfl

@[goir] theorem exec.makeList (x : Nat) (kind : ListKind) (cap : Expr) (s : St O) :
    exec ext callee lf targs (.makeList x kind cap) s =
      match evalE targs s cap with
      | some (.int k) =>
        if 0 ≤ k then
          .norm (s.set x (match kind with | .ints => .ints [] | .strs => .strs [] | .objs => .objs []))
        else .panic
      | _ => .panic := by rfl

@[goir] theorem exec.append (x : Nat) (e : Expr) (s : St O) :
    exec ext callee lf targs (.append x e) s =
      match evalE targs s e with
      | some v => (match appendV (s.loc x) v with | some l => .norm (s.set x l) | none => .panic)
      | none => .panic := by rfl

@[goir] theorem exec.call (f : Nat) (tas : List TyRef) (args : List Expr) (dsts : List (Option Nat)) (s : St O) :
    exec ext callee lf targs (.call f tas args dsts) s =
      match resolveAll targs tas, evalArgs targs s args with
      | some tas, some vs =>
        match callee f tas vs s.buf with
        | .ret rs b => .norm (assignAll { s with buf := b } dsts rs)
        | .panic => .panic
        | .timeout => .timeout
      | _, _ => .panic := by rfl

@[goir] theorem exec.binWrite (ord : Expr) (t : TyRef) (e : Expr) (dst : Option Nat) (s : St O) :
    exec ext callee lf targs (.binWrite ord t e dst) s =
      match evalE targs s ord, resolve targs t, evalE targs s e with
      | some (.order o), some t, some (.int n) =>
        .norm (({ s with buf := s.buf ++ toE o t.width ((Ty.u t.width).wrap n).toNat } : St O).setOpt dst (.err false))
      | _, _, _ => .panic := by rfl

@[goir] theorem exec.binRead (ord : Expr) (t : TyRef) (x : Nat) (dst : Option Nat) (s : St O) :
    exec ext callee lf targs (.binRead ord t x dst) s =
      match evalE targs s ord, resolve targs t with
      | some (.order o), some t =>
        if t.width ≤ s.buf.length then
          .norm ((({ s with buf := s.buf.drop t.width } : St O).set x (.int (t.wrap (ofE o (s.buf.take t.width))))).setOpt dst
            (.err false))
        else .norm (({ s with buf := [] } : St O).setOpt dst (.err true))
      | _, _ => .panic := by rfl

@[goir] theorem exec.readFull (x : Nat) (n dst : Option Nat) (s : St O) :
    exec ext callee lf targs (.readFull x n dst) s =
      match s.loc x with
      | .bytes old =>
        if old.length ≤ s.buf.length then
          .norm (((({ s with buf := s.buf.drop old.length } : St O).set x (.bytes (s.buf.take old.length))).setOpt n
            (.int old.length)).setOpt dst (.err false))
        else
          .norm (((({ s with buf := [] } : St O).set x (.bytes (fillFrom s.buf old))).setOpt n (.int s.buf.length)).setOpt dst
            (.err true))
      | _ => .panic := by rfl

@[goir] theorem exec.bufRead (x : Nat) (n dst : Option Nat) (s : St O) :
    exec ext callee lf targs (.bufRead x n dst) s =
      match s.loc x with
      | .bytes old =>
        if s.buf.isEmpty then
          .norm ((s.setOpt n (.int 0)).setOpt dst (.err (!old.isEmpty)))
        else
          let k := Nat.min old.length s.buf.length
          .norm (((({ s with buf := s.buf.drop k } : St O).set x (.bytes (fillFrom (s.buf.take k) old))).setOpt n (.int k)).setOpt
            dst (.err false))
      | _ => .panic := by rfl

@[goir] theorem exec.bufWrite (e : Expr) (n dst : Option Nat) (s : St O) :
    exec ext callee lf targs (.bufWrite e n dst) s =
      match evalE targs s e with
      | some (.bytes bs) => .norm ((({ s with buf := s.buf ++ bs } : St O).setOpt n (.int bs.length)).setOpt dst (.err false))
      | _ => .panic := by rfl

@[goir] theorem exec.objEncode (e : Expr) (dst : Option Nat) (s : St O) :
    exec ext callee lf targs (.objEncode e dst) s =
      match evalE targs s e with
      | some (.obj o) =>
        match ext.enc o s.buf with
        | .ok b => .norm (({ s with buf := b } : St O).setOpt dst (.err false))
        | .err => .norm (s.setOpt dst (.err true))
        | .panic => .panic
      | _ => .panic := by rfl

@[goir] theorem exec.objNew (x : Nat) (s : St O) :
    exec ext callee lf targs (.objNew x) s = .norm (s.set x (.obj ext.new)) := by rfl

@[goir] theorem exec.objDecode (x : Nat) (dst : Option Nat) (s : St O) :
    exec ext callee lf targs (.objDecode x dst) s =
      match s.loc x with
      | .obj o =>
        match ext.dec o s.buf with
        | .ok (o', b) => .norm ((({ s with buf := b } : St O).set x (.obj o')).setOpt dst (.err false))
        | .err => .norm (s.setOpt dst (.err true))
        | .panic => .panic
      | _ => .panic := by rfl

@[goir] theorem exec.ite (c : Expr) (t e : Stmt) (s : St O) :
    exec ext callee lf targs (.ite c t e) s =
      match evalE targs s c with
      | some (.bool true) => exec ext callee lf targs t s
      | some (.bool false) => exec ext callee lf targs e s
      | _ => .panic := by rfl

/-- not in `goir`: `simp only [goir]` is to stop in front of a loop; the proof of the loop rewrites with this equation and
    goes on with a lemma about `whileLoop` -/
theorem exec.while (c : Expr) (post body : Stmt) (s : St O) :
    exec ext callee lf targs (.while c post body) s =
      whileLoop (fun s => evalE targs s c) (exec ext callee lf targs body) (exec ext callee lf targs post) lf s := by rfl

@[goir] theorem exec.range (x : Nat) (e : Expr) (body : Stmt) (s : St O) :
    exec ext callee lf targs (.range x e body) s =
      match (evalE targs s e).bind elems with
      | some vs => rangeLoop x (exec ext callee lf targs body) vs s
      | none => .panic := by rfl

@[goir] theorem exec.ret (es : List Expr) (s : St O) :
    exec ext callee lf targs (.ret es) s =
      match evalArgs targs s es with
      | some vs => .ret vs s
      | none => .panic := by rfl

end

section
variable (targs : List Ty) (s : St O)

@[goir] theorem evalE.var (i : Nat) : evalE targs s (.var i) = some (s.loc i) := by rfl
@[goir] theorem evalE.int (n : Int) : evalE targs s (.int n) = some (.int n) := by rfl
@[goir] theorem evalE.bool (b : Bool) : evalE targs s (.bool b) = some (.bool b) := by rfl
@[goir] theorem evalE.nilErr : evalE targs s .nilErr = some (.err false) := by rfl
@[goir] theorem evalE.newErr : evalE targs s .newErr = some (.err true) := by rfl
@[goir] theorem evalE.nil : evalE targs s .nil = some .unit := by rfl
@[goir] theorem evalE.emptyStr : evalE targs s .emptyStr = some (.bytes []) := by rfl
@[goir] theorem evalE.order (e : Endian) : evalE targs s (.order e) = some (.order e) := by rfl
@[goir] theorem evalE.len (a : Expr) : evalE targs s (.len a) = (evalE targs s a).bind (fun v => (lenV v).map V.int) := by rfl
@[goir] theorem evalE.bufLen : evalE targs s .bufLen = some (.int s.buf.length) := by rfl
@[goir] theorem evalE.bufBytes : evalE targs s .bufBytes = some (.bytes s.buf) := by rfl
@[goir] theorem evalE.conv (t : TyRef) (a : Expr) :
    evalE targs s (.conv t a) =
      match resolve targs t, evalE targs s a with
      | some t, some (.int n) => some (.int (t.wrap n))
      | _, _ => none := by rfl
@[goir] theorem evalE.maxOf (t : TyRef) :
    evalE targs s (.maxOf t) =
      match resolve targs t with
      | some (.u w) => some (.int (((256 ^ w : Nat) : Int) - 1))
      | _ => none := by rfl
@[goir] theorem evalE.arith (op : AOp) (t : TyRef) (a b : Expr) :
    evalE targs s (.arith op t a b) =
      match resolve targs t, evalE targs s a, evalE targs s b with
      | some t, some (.int x), some (.int y) => (aop op x y).map (fun r => V.int (t.wrap r))
      | _, _, _ => none := by rfl
@[goir] theorem evalE.cmp (op : COp) (a b : Expr) :
    evalE targs s (.cmp op a b) =
      match evalE targs s a, evalE targs s b with
      | some (.int x), some (.int y) => some (.bool (cop op x y))
      | some (.err x), some (.err false) => (match op with | .ne => some (.bool x) | .eq => some (.bool !x) | _ => none)
      | _, _ => none := by rfl
@[goir] theorem evalE.and (a b : Expr) :
    evalE targs s (.and a b) =
      match evalE targs s a with
      | some (.bool false) => some (.bool false)
      | some (.bool true) => (match evalE targs s b with | some (.bool y) => some (.bool y) | _ => none)
      | _ => none := by rfl
@[goir] theorem evalE.or (a b : Expr) :
    evalE targs s (.or a b) =
      match evalE targs s a with
      | some (.bool true) => some (.bool true)
      | some (.bool false) => (match evalE targs s b with | some (.bool y) => some (.bool y) | _ => none)
      | _ => none := by rfl
@[goir] theorem evalE.not (a : Expr) :
    evalE targs s (.not a) =
      match evalE targs s a with
      | some (.bool x) => some (.bool !x)
      | _ => none := by rfl
@[goir] theorem evalE.min (a b : Expr) :
    evalE targs s (.min a b) =
      match evalE targs s a, evalE targs s b with
      | some (.int x), some (.int y) => some (.int (if x ≤ y then x else y))
      | _, _ => none := by rfl
@[goir] theorem evalE.index (a i : Expr) :
    evalE targs s (.index a i) =
      match evalE targs s a, evalE targs s i with
      | some (.bytes bs), some (.int k) =>
        if 0 ≤ k then (bs[k.toNat]?).map (fun b => V.int b.toNat) else none
      | _, _ => none := by rfl
@[goir] theorem evalE.sliceFrom (a lo : Expr) :
    evalE targs s (.sliceFrom a lo) =
      match evalE targs s a, evalE targs s lo with
      | some (.bytes bs), some (.int k) => if 0 ≤ k ∧ k ≤ bs.length then some (.bytes (bs.drop k.toNat)) else none
      | _, _ => none := by rfl
@[goir] theorem evalE.sliceTo (a hi : Expr) :
    evalE targs s (.sliceTo a hi) =
      match evalE targs s a, evalE targs s hi with
      | some (.bytes bs), some (.int k) => if 0 ≤ k ∧ k ≤ bs.length then some (.bytes (bs.take k.toNat)) else none
      | _, _ => none := by rfl
@[goir] theorem evalE.toStr (a : Expr) :
    evalE targs s (.toStr a) = (match evalE targs s a with | some (.bytes bs) => some (.bytes bs) | _ => none) := by rfl
@[goir] theorem evalE.toBytes (a : Expr) :
    evalE targs s (.toBytes a) = (match evalE targs s a with | some (.bytes bs) => some (.bytes bs) | _ => none) := by rfl
@[goir] theorem evalE.bytes1 (a : Expr) :
    evalE targs s (.bytes1 a) =
      match evalE targs s a with
      | some (.int n) => if 0 ≤ n ∧ n < 256 then some (.bytes [UInt8.ofNat n.toNat]) else none
      | _ => none := by rfl
@[goir] theorem evalE.repeat (a n : Expr) :
    evalE targs s (.repeat a n) =
      match evalE targs s a, evalE targs s n with
      | some (.bytes bs), some (.int k) => if 0 ≤ k then some (.bytes (List.replicate k.toNat bs).flatten) else none
      | _, _ => none := by rfl
@[goir] theorem evalE.crc32 (a : Expr) :
    evalE targs s (.crc32 a) =
      (match evalE targs s a with | some (.bytes bs) => some (.int (crc32Go bs).toNat) | _ => none) := by rfl

@[goir] theorem evalArgs.nil : evalArgs targs s [] = some [] := by rfl
@[goir] theorem evalArgs.cons (e : Expr) (es : List Expr) :
    evalArgs targs s (e :: es) = (evalE targs s e).bind (fun v => (evalArgs targs s es).map (v :: ·)) := by rfl

@[goir] theorem resolve.ty (t : Ty) : resolve targs (.ty t) = some t := by rfl
@[goir] theorem resolve.param (i : Nat) : resolve targs (.param i) = targs[i]? := by rfl
@[goir] theorem resolveAll.nil : resolveAll targs [] = some [] := by rfl
@[goir] theorem resolveAll.cons (t : TyRef) (ts : List TyRef) :
    resolveAll targs (t :: ts) = (resolve targs t).bind (fun t => (resolveAll targs ts).map (t :: ·)) := by rfl

end

@[goir] theorem lenV.bytes (bs : Bytes) : lenV (.bytes bs : V O) = some (bs.length : Int) := by rfl
@[goir] theorem lenV.ints (l : List Int) : lenV (.ints l : V O) = some (l.length : Int) := by rfl
@[goir] theorem lenV.strs (l : List Bytes) : lenV (.strs l : V O) = some (l.length : Int) := by rfl
@[goir] theorem lenV.objs (l : List O) : lenV (.objs l : V O) = some (l.length : Int) := by rfl

@[goir] theorem elems.bytes (bs : Bytes) : elems (.bytes bs : V O) = some (bs.map (fun b => V.int b.toNat)) := by rfl
@[goir] theorem elems.ints (l : List Int) : elems (.ints l : V O) = some (l.map V.int) := by rfl
@[goir] theorem elems.strs (l : List Bytes) : elems (.strs l : V O) = some (l.map V.bytes) := by rfl
@[goir] theorem elems.objs (l : List O) : elems (.objs l : V O) = some (l.map V.obj) := by rfl

@[goir] theorem appendV.ints (l : List Int) (n : Int) : appendV (.ints l : V O) (.int n) = some (.ints (l ++ [n])) := by rfl
@[goir] theorem appendV.strs (l : List Bytes) (b : Bytes) : appendV (.strs l : V O) (.bytes b) = some (.strs (l ++ [b])) := by rfl
@[goir] theorem appendV.objs (l : List O) (o : O) : appendV (.objs l) (.obj o) = some (.objs (l ++ [o])) := by rfl

@[goir] theorem Ty.width_u (w : Nat) : (Ty.u w).width = w := by rfl
@[goir] theorem Ty.wrap_big (n : Int) : Ty.big.wrap n = n := by rfl

@[goir] theorem natV_def (n : Nat) : (natV n : V O) = .int (n : Int) := by rfl

@[goir] theorem assignAll.cons (s : St O) (d : Option Nat) (ds : List (Option Nat)) (v : V O) (vs : List (V O)) :
    assignAll s (d :: ds) (v :: vs) = assignAll (s.setOpt d v) ds vs := by rfl
@[goir] theorem assignAll.nil (s : St O) (vs : List (V O)) : assignAll s [] vs = s := by rfl

@[goir] theorem initLoc.zero (a : V O) (as : List (V O)) : initLoc (a :: as) 0 = a := by rfl
@[goir] theorem initLoc.succ (a : V O) (as : List (V O)) (i : Nat) : initLoc (a :: as) (i + 1) = initLoc as i := by rfl
@[goir] theorem initLoc.nil (i : Nat) : initLoc ([] : List (V O)) i = .unit := by rfl

theorem St.set_set (s : St O) (x : Nat) (v w : V O) : (s.set x v).set x w = s.set x w := by
  simp only [St.set, St.mk.injEq, true_and]
  funext j
  split <;> rfl

theorem St.set_self (s : St O) (x : Nat) (v : V O) (h : s.loc x = v) : s.set x v = s := by
  cases s
  simp only [St.set, St.mk.injEq, true_and]
  funext j
  split
  · next hj => subst hj; exact h.symm
  · rfl

/-- the last `match` of `runFn` -/
def Res.toCall : Res O → CallRes O
  | .ret vs s => .ret vs s.buf
  | .norm _ => .panic
  | .panic => .panic
  | .timeout => .timeout

@[goir] theorem Res.toCall_ret (vs : List (V O)) (s : St O) : (Res.ret vs s).toCall = .ret vs s.buf := by rfl
@[goir] theorem Res.toCall_panic : (Res.panic : Res O).toCall = .panic := by rfl

theorem runFn_pos (ext : Ext O) {p : List Func} {f : Nat} {fn : Func} (h : p[f]? = some fn) {k : Nat} (hk : 1 ≤ k)
    (lf : Nat) (targs : List Ty) (args : List (V O)) (buf : Bytes) :
    runFn ext p lf k f targs args buf =
      (exec ext (runFn ext p lf (k - 1)) lf targs fn.body { buf := buf, loc := initLoc args }).toCall := by
  obtain ⟨k, rfl⟩ := Nat.exists_eq_add_one.2 hk
  simp only [runFn, h, Nat.add_sub_cancel]
  rfl

/-- … when only the body is known, as for a family `f = ix e` of functions over the byte order -/
theorem runFn_body (ext : Ext O) {p : List Func} {f : Nat} {body : Stmt} (h : p[f]?.map (·.body) = some body) {k : Nat}
    (hk : 1 ≤ k) (lf : Nat) (targs : List Ty) (args : List (V O)) (buf : Bytes) :
    runFn ext p lf k f targs args buf =
      (exec ext (runFn ext p lf (k - 1)) lf targs body { buf := buf, loc := initLoc args }).toCall := by
  obtain ⟨fn, hf, rfl⟩ := Option.map_eq_some_iff.1 h
  exact runFn_pos ext hf hk lf targs args buf

theorem whileLoop_false {cond : St O → Option (V O)} {body post : St O → Res O} {k : Nat} {s : St O}
    (h : cond s = some (.bool false)) : whileLoop cond body post (k+1) s = .norm s := by
  simp only [whileLoop, h]

theorem whileLoop_true {cond : St O → Option (V O)} {body post : St O → Res O} {k : Nat} {s s1 s2 : St O}
    (h : cond s = some (.bool true)) (hb : body s = .norm s1) (hp : post s1 = .norm s2) :
    whileLoop cond body post (k+1) s = whileLoop cond body post k s2 := by
  simp only [whileLoop, h, hb, hp]

/-- `st l` is the state when `l` is left of the byte string the loop strips (the string itself, or its reverse when the
    loop works from the back) -/
theorem whileLoop_trimL {cond : St O → Option (V O)} {body post : St O → Res O} (st : Bytes → St O) (pad : UInt8)
    (hnil : cond (st []) = some (.bool false))
    (hcons : ∀ b l, cond (st (b :: l)) = some (.bool (decide (b = pad))))
    (hbody : ∀ b l, body (st (b :: l)) = .norm (st l)) (hpost : ∀ s, post s = .norm s) :
    ∀ (l : Bytes) (fuel : Nat), l.length < fuel → whileLoop cond body post fuel (st l) = .norm (st (trimL pad l)) := by
  intro l
  induction l with
  | nil =>
    intro fuel hf
    obtain ⟨fuel, rfl⟩ := Nat.exists_eq_add_one.2 (Nat.zero_lt_of_lt hf)
    exact whileLoop_false hnil
  | cons b l ih =>
    intro fuel hf
    obtain ⟨fuel, rfl⟩ := Nat.exists_eq_add_one.2 (Nat.zero_lt_of_lt hf)
    rw [trimL]
    by_cases hb : b = pad
    · rw [whileLoop_true (by rw [hcons, decide_eq_true hb]) (hbody b l) (hpost _), if_pos hb]
      exact ih fuel (by simpa using hf)
    · rw [whileLoop_false (by rw [hcons, decide_eq_false hb]), if_neg hb]

theorem pow256_eight : (256 : Nat) ^ 8 = 2 ^ 64 := by decide

theorem pow256_le {w : Nat} (hw : w ≤ 8) : 256 ^ w ≤ 2 ^ 64 :=
  pow256_eight ▸ Nat.pow_le_pow_right (by decide) hw

theorem wrap_u_nat (w n : Nat) : (Ty.u w).wrap (n : Int) = ((n % 256 ^ w : Nat) : Int) := by
  simp only [Ty.wrap]
  generalize 256 ^ w = m
  omega

theorem wrap_u_of_lt {w n : Nat} (h : n < 256 ^ w) : (Ty.u w).wrap (n : Int) = (n : Int) := by
  rw [wrap_u_nat, Nat.mod_eq_of_lt h]

theorem wrap_s_of_lt {w n : Nat} (h : 2 * n < 256 ^ w) : (Ty.s w).wrap (n : Int) = (n : Int) := by
  simp only [Ty.wrap]
  generalize 256 ^ w = m at h
  rw [Int.emod_eq_of_lt (by omega) (by omega), if_pos (by omega)]

theorem wrap_s8_of_lt {n : Nat} (h : n < 2 ^ 63) : (Ty.s 8).wrap (n : Int) = (n : Int) :=
  wrap_s_of_lt (Nat.lt_of_lt_of_eq (Nat.mul_lt_mul_of_pos_left h (by decide)) (by decide))

theorem wrap_s8_neg {n : Nat} (h : 2 ^ 63 ≤ n) (h' : n < 2 ^ 64) : (Ty.s 8).wrap (n : Int) < 0 := by
  simp only [Ty.wrap, pow256_eight]
  split <;> omega

end FinProto.GoIR
