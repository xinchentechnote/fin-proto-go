/-
  The checksum-service registry of codec/checksum.go under its reader/writer lock (property C19), for
  the hand-written step relation `Step` of Registry.lean: every reachable state of every interleaving
  of any number of goroutines obeys the lock discipline, is linearizable in lock-release order and
  respects real-time order; and what the sequential map specification says about a registration
  race.  Each of the 14 rules of `Step` is one move of one thread in LockOK.lean and in History.lean.
-/
import FinProto.Props.History

namespace FinProto.Reg

theorem get_nil (n : Name) : get [] n = none := rfl

theorem get_erase (m : Map) (n n' : Name) :
    get (erase m n) n' = if n' = n then none else get m n' := by
  induction m with
  | nil => simp [erase, get]
  | cons p rest ih =>
    obtain ⟨k, v⟩ := p
    unfold erase at ih ⊢
    by_cases hk : k = n
    · subst hk
      simp only [List.filter_cons, bne_self_eq_false, Bool.false_eq_true, ↓reduceIte, ih, get]
      by_cases h : n' = k
      · simp [h]
      · have : ¬ k = n' := fun e => h e.symm
        simp [h, this]
    · have hb : ((k, v).1 != n) = true := by simp [hk]
      simp only [List.filter_cons, hb, ↓reduceIte, get, ih]
      by_cases h : n' = n
      · subst h; simp [hk]
      · simp [h]

theorem get_insert (m : Map) (n n' : Name) (v : Svc) :
    get (insert m n v) n' = if n' = n then some v else get m n' := by
  unfold insert
  simp only [get, get_erase]
  by_cases h : n' = n
  · subst h; simp
  · have : ¬ n = n' := fun e => h e.symm
    simp [h, this]

/-- a look-up never returns a service stored under another name -/
theorem get_right_name (m : Map) (n n' : Name) (v : Svc) :
    get (insert m n v) n' = (if n' = n then some v else get m n') ∧
    get (erase m n) n' = (if n' = n then none else get m n') ∧
    get ([] : Map) n = none :=
  ⟨get_insert m n n' v, get_erase m n n', rfl⟩

example : get (insert [(1, 10), (2, 20)] 3 30) 2 = some 20 := by decide
example : get (erase [(1, 10), (2, 20)] 1) 1 = none := by decide

theorem runSpec_append (m : Map) (a b : List Call) :
    runSpec m (a ++ b) =
      ((runSpec (runSpec m a).1 b).1, (runSpec m a).2 ++ (runSpec (runSpec m a).1 b).2) := by
  induction a generalizing m with
  | nil => simp [runSpec]
  | cons c cs ih => simp [runSpec, ih]

theorem reg_fails_when_present {m : Map} {n : Name} {w : Svc} (v : Svc) (h : get m n = some w) :
    spec m (.reg n v) = (m, .bool false) := by
  simp [spec, h]

theorem reg_succeeds_when_absent {m : Map} {n : Name} (v : Svc) (h : get m n = none) :
    spec m (.reg n v) = (insert m n v, .bool true) := by
  simp [spec, h]

theorem setPc_self (pc : Tid → PC) (t : Tid) (p : PC) : setPc pc t p t = p := upd_self
theorem setPc_of_ne (pc : Tid → PC) {t u : Tid} (p : PC) (e : u ≠ t) : setPc pc t p u = pc u := upd_of_ne e

def wHold : PC → Bool
  | .regCheck _ _ | .regStore _ _ | .wrBody _ | .unlockX _ _ => true
  | _ => false

def rHold : PC → Bool
  | .rdBody _ | .unlockS _ _ => true
  | _ => false

theorem wHold_not_rHold (p : PC) : wHold p = true → rHold p = false := by
  cases p <;> simp [wHold, rHold]

abbrev LockInv (s : State) : Prop := LockOK wHold rHold s.pc s.lock

theorem lockInv_step {s s' : State} (hi : LockInv s) (hs : Step s s') : LockInv s' := by
  cases hs with
  | lockReg t n v h hl => exact hi.acqX hl rfl rfl
  | lockWr t c h hc hl => exact hi.acqX hl rfl rfl
  | rlockFree t n h hl => exact hi.acqS_free hl rfl rfl
  | rlockShared t n ts h hl => exact hi.acqS_shared hl h rfl rfl rfl
  | unlock t c r h => exact hi.relX (hi.of_W h rfl) rfl rfl
  | runlock t c r ts h hl => exact hi.relS hl rfl rfl
  -- the other rules leave the lock alone; `by rfl`, not `rfl`: a term would be checked before the assumption
  -- has fixed the old pc, and would identify it with the new one
  | _ => exact hi.same ‹s.pc _ = _› (by rfl) (by rfl)

theorem lockInv_reachable {m0 : Map} {s : State} (h : Reachable m0 s) : LockInv s := by
  induction h with
  | init => exact fun _ => ⟨rfl, rfl⟩
  | step _ hs ih => exact lockInv_step ih hs

/-- Lock discipline / mutual exclusion, for every reachable state of every interleaving. -/
theorem mutual_exclusion {m0 : Map} {s : State} (h : Reachable m0 s) :
    -- a thread inside a write-locked region owns the lock exclusively; nobody else is inside
    (∀ t, wHold (s.pc t) = true →
        s.lock = .excl t ∧ ∀ u, u ≠ t → wHold (s.pc u) = false ∧ rHold (s.pc u) = false) ∧
    -- a thread inside a read-locked region is a registered reader; the readers inside are
    -- exactly the registered ones, and no writer is inside
    (∀ t, rHold (s.pc t) = true →
        ∃ ts, s.lock = .shared ts ∧ t ∈ ts ∧ ts.Nodup ∧
          (∀ u, rHold (s.pc u) = true ↔ u ∈ ts) ∧ ∀ u, wHold (s.pc u) = false) ∧
    -- a free lock means nobody is inside; a held lock is held by somebody who is inside
    (s.lock = .free → ∀ u, wHold (s.pc u) = false ∧ rHold (s.pc u) = false) ∧
    (∀ t, s.lock = .excl t → wHold (s.pc t) = true) ∧
    (∀ ts, s.lock = .shared ts → ts ≠ [] ∧ ts.Nodup ∧ ∀ u, u ∈ ts → rHold (s.pc u) = true) :=
  (lockInv_reachable h).mutex

/-- data-race freedom, write side: the map changes only in a step of the thread that owns the
    write lock. -/
theorem write_needs_lock {m0 : Map} {s s' : State} (h : Reachable m0 s) (hs : Step s s')
    (hm : s'.mem ≠ s.mem) : ∃ t, s.lock = .excl t ∧ wHold (s.pc t) = true ∧ s'.pc t ≠ s.pc t ∧
      ∀ u, u ≠ t → s'.pc u = s.pc u := by
  have hi := lockInv_reachable h
  -- the three rules that write the map are taken by a thread inside a write-locked region
  cases hs with
  | regStore t n v hp => exact hi.owner_moves hp rfl nofun
  | doRemove t n hp => exact hi.owner_moves hp rfl nofun
  | doClear t hp => exact hi.owner_moves hp rfl nofun
  | _ => exact absurd rfl hm

def specMap (m0 : Map) (lin : List (Tid × Call × Res)) : Map := (runSpec m0 (lin.map (fun x => x.2.1))).1

def atX : PC → Bool
  | .unlockX _ _ => true
  | _ => false

def DataAt (mem sp : Map) : PC → Prop
  | .regStore n _ => get mem n = none
  | .unlockX c r => (mem, r) = spec sp c
  | .unlockS c r => ∃ n, c = .get n ∧ r = .svc (get sp n)
  | _ => True

/-- The Go map is the specification's map except between a writer's last access and its `Unlock()`,
    where the specification's next step is exactly what the writer has done. -/
def DataInv (m0 mem : Map) (lin : List (Tid × Call × Res)) (pc : Tid → PC) : Prop :=
  (runSpec m0 (lin.map (fun x => x.2.1))).2 = lin.map (fun x => x.2.2) ∧
  ((∀ u, atX (pc u) = false) → mem = specMap m0 lin) ∧
  ∀ u, DataAt mem (specMap m0 lin) (pc u)

theorem atX_of_not_wHold {p : PC} (h : wHold p = false) : atX p = false := by
  cases p <;> first | rfl | cases h

theorem dataAt_outside (mem sp : Map) {p : PC} (hw : wHold p = false) (hr : rHold p = false) :
    DataAt mem sp p := by
  cases p <;> first | trivial | cases hw | cases hr

theorem noX_of_wHold {s : State} (hi : LockInv s) {t : Tid} {p : PC} (e : s.pc t = p) (h : wHold p = true)
    (hx : atX p = false) : ∀ u, atX (s.pc u) = false := fun u => by
  by_cases eu : u = t
  · rw [eu, e, hx]
  · exact atX_of_not_wHold (hi.alone e h u eu).1

theorem noX_of_rHold {s : State} (hi : LockInv s) {t : Tid} {p : PC} (e : s.pc t = p) (h : rHold p = true) :
    ∀ u, atX (s.pc u) = false := fun u => by
  obtain ⟨ts, hl, _⟩ := hi.of_R e h
  exact atX_of_not_wHold (hi.no_writer hl u)

section
variable {m0 mem : Map} {lin : List (Tid × Call × Res)} {pc : Tid → PC} {t : Tid} {p p' : PC}

theorem DataInv.at (hd : DataInv m0 mem lin pc) (e : pc t = p) : DataAt mem (specMap m0 lin) p := e ▸ hd.2.2 t

theorem dataInv_same (hd : DataInv m0 mem lin pc) (e : pc t = p) (hx : atX p' = atX p)
    (hp : DataAt mem (specMap m0 lin) p') : DataInv m0 mem lin (setPc pc t p') :=
  ⟨hd.1, fun h => hd.2.1 fun u => upd_view atX e hx u ▸ h u, forall_upd hd.2.2 hp⟩

theorem lin_snoc (hres : (runSpec m0 (lin.map (fun x => x.2.1))).2 = lin.map (fun x => x.2.2)) (t : Tid)
    {c : Call} {r : Res} {mem' : Map} (hsp : (mem', r) = spec (specMap m0 lin) c) :
    (runSpec m0 ((lin ++ [(t, c, r)]).map (fun x => x.2.1))).2 = (lin ++ [(t, c, r)]).map (fun x => x.2.2) ∧
    specMap m0 (lin ++ [(t, c, r)]) = mem' := by
  simp only [specMap, List.map_append, List.map_cons, List.map_nil, runSpec_append, runSpec, hres] at hsp ⊢
  rw [← hsp]
  exact ⟨rfl, rfl⟩

theorem dataAt_alone (mem' sp : Map) (hp : DataAt mem' sp p')
    (hout : ∀ u, u ≠ t → wHold (pc u) = false ∧ rHold (pc u) = false) :
    ∀ u, DataAt mem' sp (setPc pc t p' u) :=
  forall_upd_of_ne hp fun u e => dataAt_outside _ _ (hout u e).1 (hout u e).2

end

theorem dataInv_step {m0 : Map} {s s' : State} (hl : LockInv s) (hd : DataInv m0 s.mem s.lin s.pc)
    (hs : Step s s') : DataInv m0 s'.mem s'.lin s'.pc := by
  -- the write-lock holder `t` has done with the map and moves to `unlockX c r`
  have write : ∀ {t p} c r mem', s.pc t = p → wHold p = true → atX p = false →
      (s.mem = specMap m0 s.lin → (mem', r) = spec (specMap m0 s.lin) c) →
      DataInv m0 mem' s.lin (setPc s.pc t (.unlockX c r)) := fun {t} _ c r mem' e hw hx hspec =>
    ⟨hd.1, fun h => (by have := h t; rw [setPc_self] at this; cases this),
      dataAt_alone mem' _ (hspec (hd.2.1 (noX_of_wHold hl e hw hx))) (hl.alone e hw)⟩
  cases hs with
  | regAbsent t n v h hg => exact dataInv_same hd h rfl hg
  | doGet t n h =>
    refine dataInv_same hd h rfl ⟨n, rfl, ?_⟩
    rw [← hd.2.1 (noX_of_rHold hl h rfl)]
  | regExists t n v w h hg =>
    refine write _ _ _ h rfl rfl fun hm => ?_
    rw [← hm, reg_fails_when_present v hg]
  | regStore t n v h =>
    refine write _ _ _ h rfl rfl fun hm => ?_
    rw [← hm, reg_succeeds_when_absent v (hd.at h)]
  | doRemove t n h =>
    refine write _ _ _ h rfl rfl fun hm => ?_
    rw [← hm]; rfl
  | doClear t h => exact write _ _ _ h rfl rfl fun _ => rfl
  | unlock t c r h =>
    -- the specification takes the step the writer has prepared; everybody else is outside
    obtain ⟨hres, e⟩ := lin_snoc hd.1 t (hd.at h)
    exact ⟨hres, fun _ => e.symm, dataAt_alone _ _ trivial (hl.alone h rfl)⟩
  | runlock t c r ts h hlk =>
    -- a `Get` is linearised with the specification's answer: the specification's map does not move
    obtain ⟨n, rfl, rfl⟩ := hd.at h
    obtain ⟨hres, e⟩ := lin_snoc hd.1 t (c := .get n) rfl
    exact dataInv_same ⟨hres, by rw [e]; exact hd.2⟩ h rfl trivial
  | _ => exact dataInv_same hd ‹s.pc _ = _› (by rfl) trivial

theorem dataInv_reachable {m0 : Map} {s : State} (h : Reachable m0 s) : DataInv m0 s.mem s.lin s.pc := by
  induction h with
  | init => exact ⟨rfl, fun _ => rfl, fun _ => trivial⟩
  | step hr hs ih => exact dataInv_step (lockInv_reachable hr) ih hs

/-- Linearizability: in every reachable state of every interleaving, the results of the
    completed calls are exactly those of the sequential map specification run atomically in
    lock-release order, and the Go map equals the specification's map whenever no writer is inside
    (lock free, or readers only); an in-progress writer is described exactly. -/
theorem linearizable {m0 : Map} {s : State} (h : Reachable m0 s) :
    let calls := s.lin.map (fun x => x.2.1)
    let results := s.lin.map (fun x => x.2.2)
    let specState := (runSpec m0 calls).1
    (runSpec m0 calls).2 = results ∧
    (s.lock = .free → s.mem = specState) ∧
    (∀ ts, s.lock = .shared ts → s.mem = specState) ∧
    (∀ t n v, s.pc t = .regCheck n v → s.mem = specState) ∧
    (∀ t n v, s.pc t = .regStore n v → s.mem = specState ∧ get s.mem n = none) ∧
    (∀ t c, s.pc t = .wrBody c → s.mem = specState) ∧
    (∀ t c r, s.pc t = .unlockX c r → (s.mem, r) = spec specState c) ∧
    (∀ t n, s.pc t = .rdBody n → s.mem = specState) ∧
    (∀ t c r, s.pc t = .unlockS c r → s.mem = specState ∧ ∃ n, c = .get n ∧ r = .svc (get specState n)) := by
  have hl := lockInv_reachable h
  have hd := dataInv_reachable h
  have hmem := hd.2.1
  exact ⟨hd.1, fun hf => hmem fun u => atX_of_not_wHold (hl.free hf u).1,
    fun ts hs => hmem fun u => atX_of_not_wHold (hl.no_writer hs u),
    fun t n v ht => hmem (noX_of_wHold hl ht rfl rfl),
    fun t n v ht => ⟨hmem (noX_of_wHold hl ht rfl rfl), hd.at ht⟩,
    fun t c ht => hmem (noX_of_wHold hl ht rfl rfl),
    fun t c r ht => hd.at ht,
    fun t n ht => hmem (noX_of_rHold hl ht rfl),
    fun t c r ht => ⟨hmem (noX_of_rHold hl ht rfl), hd.at ht⟩⟩

/-- two threads: thread 0 holds the read lock (inside `Get(5)`), thread 1 has invoked
    `Registry(5 ↦ 7)` and is waiting for the lock. -/
def demo1 : State :=
  { lock := .shared [0], mem := [],
    pc := setPc (setPc (setPc (fun _ => .idle) 0 (.want (.get 5))) 0 (.rdBody 5)) 1 (.want (.reg 5 7)),
    hist := [.inv 0 (.get 5), .inv 1 (.reg 5 7)], lin := [] }

theorem demo1_reachable : Reachable [] demo1 :=
  .step (.step (.step .init (Step.invoke _ 0 (.get 5) rfl))
    (Step.rlockFree _ 0 5 rfl rfl))
    (Step.invoke _ 1 (.reg 5 7) rfl)

example : ∃ s, Reachable [] s ∧ s.lock = .shared [0] ∧ rHold (s.pc 0) = true ∧
    s.pc 1 = .want (.reg 5 7) ∧ wHold (s.pc 1) = false :=
  ⟨demo1, demo1_reachable, rfl, rfl, rfl, rfl⟩

def pc2 (p1 p0 : PC) : Tid → PC := fun u => if u = 1 then p1 else if u = 0 then p0 else .idle

/-- a longer run: thread 1 completes `Registry(5 ↦ 7)` (returns true), then thread 0 is inside
    `Get(5)` having read `some 7` and still holds the read lock, while thread 1 has invoked
    `Remove(5)` and waits. -/
def demo2 : State :=
  { lock := .shared [0], mem := [(5, 7)],
    pc := pc2 (.want (.remove 5)) (.unlockS (.get 5) (.svc (some 7))),
    hist := [.inv 1 (.reg 5 7), .ret 1 (.reg 5 7) (.bool true), .inv 0 (.get 5), .inv 1 (.remove 5)],
    lin := [(1, .reg 5 7, .bool true)] }

theorem demo2_reachable : Reachable [] demo2 := by
  have h := ((((((((((Reachable.init (m0 := [])).step
    (Step.invoke _ 1 (.reg 5 7) rfl)).step
    (Step.lockReg _ 1 5 7 rfl rfl)).step
    (Step.regAbsent _ 1 5 7 rfl rfl)).step
    (Step.regStore _ 1 5 7 rfl)).step
    (Step.unlock _ 1 (.reg 5 7) (.bool true) rfl)).step
    (Step.return _ 1 (.reg 5 7) (.bool true) rfl)).step
    (Step.invoke _ 0 (.get 5) rfl)).step
    (Step.rlockFree _ 0 5 rfl rfl)).step
    (Step.doGet _ 0 5 rfl)).step
    (Step.invoke _ 1 (.remove 5) rfl)
  -- the run ends in `demo2`: every field by evaluation, the pc map through its values at 1, 0 and elsewhere
  refine cast (congrArg (Reachable []) ?_) h
  unfold demo2
  congr 1
  refine eq_two rfl rfl fun u e1 e0 => ?_
  simp only [setPc, e1, e0, ↓reduceIte, init]

/-- `demo2` instantiates `mutual_exclusion` and `linearizable` non-trivially: a reader is inside, a
    writer waits, one call has been linearised, and the reader's pending result is the
    specification's answer. -/
example : rHold (demo2.pc 0) = true ∧ demo2.pc 1 = .want (.remove 5) ∧
    demo2.lin.map (fun x => x.2.1) = [.reg 5 7] ∧
    runSpec [] [.reg 5 7] = ([(5, 7)], [.bool true]) :=
  ⟨rfl, rfl, rfl, rfl⟩

theorem runSpec_length (m : Map) (cs : List Call) : (runSpec m cs).2.length = cs.length := by
  induction cs generalizing m with
  | nil => rfl
  | cons c cs ih => simp [runSpec, ih]

theorem spec_keeps {m : Map} {n : Name} {w : Svc} (hg : get m n = some w) (c : Call)
    (hc : c ≠ .remove n ∧ c ≠ .clear) : get (spec m c).1 n = some w := by
  cases c with
  | reg n' s =>
    cases hn : get m n' with
    | some x => simp [spec, hn, hg]
    | none =>
      have : n ≠ n' := by intro e; subst e; simp [hg] at hn
      simp [spec, hn, get_insert, this, hg]
  | get n' => simpa [spec] using hg
  | remove n' =>
    have : n ≠ n' := by intro e; subst e; exact hc.1 rfl
    simp [spec, get_erase, this, hg]
  | clear => exact absurd rfl hc.2

theorem present_stable {m : Map} {n : Name} {w : Svc} (cs : List Call) (hg : get m n = some w)
    (hcs : ∀ c ∈ cs, c ≠ .remove n ∧ c ≠ .clear) :
    get (runSpec m cs).1 n = some w ∧
    ∀ c r, (c, r) ∈ cs.zip (runSpec m cs).2 →
      (∀ v', c = .reg n v' → r = .bool false) ∧ (c = .get n → r = .svc (some w)) := by
  induction cs generalizing m with
  | nil => simp [runSpec, hg]
  | cons c cs ih =>
    have hc := hcs c (by simp)
    have hk := spec_keeps hg c hc
    obtain ⟨ih1, ih2⟩ := ih hk (fun c' hc' => hcs c' (by simp [hc']))
    refine ⟨by simpa [runSpec] using ih1, ?_⟩
    intro c' r' hmem
    simp only [runSpec, List.zip_cons_cons, List.mem_cons, Prod.mk.injEq] at hmem
    rcases hmem with ⟨rfl, rfl⟩ | hmem
    · constructor
      · intro v' e; subst e; simp [spec, hg]
      · intro e; subst e; simp [spec, hg]
    · exact ih2 c' r' hmem

theorem get_after_reg (m : Map) {n : Name} (v : Svc) (cs : List Call) (_hg : get m n = none)
    (hcs : ∀ c ∈ cs, c ≠ .remove n ∧ c ≠ .clear) :
    get (runSpec (insert m n v) cs).1 n = some v :=
  (present_stable cs (by simp [get_insert]) hcs).1

/-- The winner of a registration race is unique: if `reg n v` finds `n` absent it returns
    true, and until the next `remove n` / `clear` every other `reg n _` returns false and every
    `get n` returns `some v`. -/
theorem reg_winner_unique (m : Map) {n : Name} (v : Svc) (post : List Call) (hg : get m n = none)
    (hpost : ∀ c ∈ post, c ≠ .remove n ∧ c ≠ .clear) :
    (runSpec m (.reg n v :: post)).2.head? = some (.bool true) ∧
    (runSpec m (.reg n v :: post)).2.length = post.length + 1 ∧
    ∀ c r, (c, r) ∈ post.zip (runSpec m (.reg n v :: post)).2.tail →
      (∀ v', c = .reg n v' → r = .bool false) ∧ (c = .get n → r = .svc (some v)) := by
  have h := present_stable (m := insert m n v) (w := v) post (by simp [get_insert]) hpost
  refine ⟨by simp [runSpec, spec, hg], by simp [runSpec_length], ?_⟩
  simpa [runSpec, spec, hg] using h.2

/-- the same, placed anywhere inside a run: `pre ++ reg n v :: post`. -/
theorem reg_winner_unique_run (m : Map) {n : Name} (v : Svc) (pre post : List Call)
    (hg : get (runSpec m pre).1 n = none)
    (hpost : ∀ c ∈ post, c ≠ .remove n ∧ c ≠ .clear) :
    (runSpec m (pre ++ .reg n v :: post)).2 =
      (runSpec m pre).2 ++ .bool true :: (runSpec (insert (runSpec m pre).1 n v) post).2 ∧
    ∀ c r, (c, r) ∈ post.zip (runSpec (insert (runSpec m pre).1 n v) post).2 →
      (∀ v', c = .reg n v' → r = .bool false) ∧ (c = .get n → r = .svc (some v)) := by
  refine ⟨by simp [runSpec_append, runSpec, spec, hg], ?_⟩
  exact (present_stable post (by simp [get_insert]) hpost).2

example : get ([] : Map) 5 = none ∧ (∀ c ∈ [Call.reg 5 9, .get 5, .remove 3], c ≠ .remove 5 ∧ c ≠ .clear) ∧
    runSpec [] [.reg 5 7, .reg 5 9, .get 5, .remove 3] =
      ([(5, 7)], [.bool true, .bool false, .svc (some 7), .unit]) := by decide

def pending : PC → Bool
  | .idle | .ret _ _ => false
  | _ => true

def pcCall : PC → Option Call
  | .idle => none
  | .want c => some c
  | .regCheck n v => some (.reg n v)
  | .regStore n v => some (.reg n v)
  | .wrBody c => some c
  | .rdBody n => some (.get n)
  | .unlockX c _ => some c
  | .unlockS c _ => some c
  | .ret _ _ => none

def pcRet : PC → Option (Call × Res)
  | .ret c r => some (c, r)
  | _ => none

theorem pending_eq (p : PC) : pending p = (pcCall p).isSome := by cases p <;> rfl

abbrev HistInv (s : State) : Prop := HistOK pcCall pcRet s.hist s.lin s.pc

theorem histInv_step {s s' : State} (hi : HistInv s) (hs : Step s s') : HistInv s' := by
  cases hs with
  | invoke t c h => exact hi.invoke h rfl rfl rfl
  | unlock t c r h => exact hi.release h rfl rfl rfl rfl
  | runlock t c r ts h _ => exact hi.release h rfl rfl rfl rfl
  | «return» t c r h => exact hi.return h rfl rfl rfl
  | _ => exact hi.internal ‹s.pc _ = _› (by rfl) (by rfl)

theorem histInv_reachable {m0 : Map} {s : State} (h : Reachable m0 s) : HistInv s := by
  induction h with
  | init => exact HistOK.init rfl rfl
  | step _ hs ih => exact histInv_step ih hs

/-- Real-time order, step form: when `t'` invokes `c'`, every call that has returned has its entry in
    `s.lin` (with multiplicity), and `t'` has exactly as many entries as earlier invocations, so none is that
    of the new call.  Since `lin` only grows at its end, the entry of the new call comes after all of them. -/
theorem ret_before_inv_lin {m0 : Map} {s s' : State} (h : Reachable m0 s) (hs : Step s s')
    {t' : Tid} {c' : Call} (hinv : s'.hist = s.hist ++ [.inv t' c']) :
    (∀ t c r, s.hist.count (.ret t c r) ≤ s.lin.count (t, c, r)) ∧
    (∀ t c r, Event.ret t c r ∈ s.hist → (t, c, r) ∈ s.lin) ∧
    s'.lin = s.lin ∧
    s.lin.countP (fun x => x.1 == t') = s.hist.countP (isInvOf t') ∧
    s.pc t' = .idle ∧ s'.pc t' = .want c' := by
  have hi := (histInv_reachable h).1
  refine ⟨hi.ret_count, fun t c r => hi.ret_mem, ?_⟩
  cases hs with
  | invoke t c hp =>
    obtain ⟨rfl, rfl⟩ : t = t' ∧ c = c' := by simpa using hinv
    exact ⟨rfl, hi.inv_count_idle hp rfl, hp, setPc_self ..⟩
  | _ => simp at hinv

/-- Real-time order, state form: a call that returned before another was invoked is linearised before it.
    For every invocation event (`hist = h1 ++ .inv t' c' :: h3`), `lin` splits as `l1 ++ l2` such that every
    return in `h1` has its entry in `l1` (with multiplicity: the k-th return of `(t, c, r)` is covered by a
    k-th entry) and `l1` holds exactly as many entries of `t'` as `t'` had earlier invocations.  The entries of
    `t'` correspond in order to its invocations (`thread_projection`), so the entry of this invocation, if it
    exists yet, lies in `l2`. -/
theorem real_time_order {m0 : Map} {s : State} (h : Reachable m0 s)
    {h1 h3 : List Event} {t' : Tid} {c' : Call} (hh : s.hist = h1 ++ Event.inv t' c' :: h3) :
    ∃ l1 l2, s.lin = l1 ++ l2 ∧
      (∀ t c r, h1.count (.ret t c r) ≤ l1.count (t, c, r)) ∧
      (∀ t c r, Event.ret t c r ∈ h1 → (t, c, r) ∈ l1) ∧
      l1.countP (fun x => x.1 == t') = h1.countP (isInvOf t') ∧
      l2.countP (fun x => x.1 == t') + (if pending (s.pc t') = true then 1 else 0)
        = (Event.inv t' c' :: h3).countP (isInvOf t') := by
  rw [pending_eq]; exact (histInv_reachable h).real_time hh

/-- `lin` agrees with `hist` thread by thread: the calls a thread invoked are, in order, its entries in `lin`
    followed by the call in progress (if any); the (call, result) pairs it returned are, in order, its
    entries in `lin` except possibly the last (released, not yet returned). -/
theorem thread_projection {m0 : Map} {s : State} (h : Reachable m0 s) (t : Tid) :
    s.hist.filterMap (invCall t) =
      (s.lin.filter (fun x => x.1 == t)).map (fun x => x.2.1) ++ (pcCall (s.pc t)).toList ∧
    s.hist.filterMap (retOf t) ++ (pcRet (s.pc t)).toList =
      (s.lin.filter (fun x => x.1 == t)).map (fun x => x.2) :=
  (histInv_reachable h).1 t

/-- in `demo2` thread 1's `Registry` returned before thread 0 invoked `Get(5)`; the hypotheses of
    `real_time_order` hold with `h1 = [inv 1 reg, ret 1 reg true]`, and the entry of the returned
    call is indeed in `lin` (the cut is `l1 = lin`, `l2 = []`). -/
example : demo2.hist = [.inv 1 (.reg 5 7), .ret 1 (.reg 5 7) (.bool true)] ++
      Event.inv 0 (.get 5) :: [.inv 1 (.remove 5)] ∧
    Event.ret 1 (.reg 5 7) (.bool true) ∈ [Event.inv 1 (.reg 5 7), .ret 1 (.reg 5 7) (.bool true)] ∧
    (1, Call.reg 5 7, Res.bool true) ∈ demo2.lin :=
  ⟨rfl, by simp, by simp [demo2]⟩

example : ∃ l1 l2, demo2.lin = l1 ++ l2 ∧ (1, Call.reg 5 7, Res.bool true) ∈ l1 := by
  obtain ⟨l1, l2, e, _, hm, _⟩ := real_time_order demo2_reachable
    (h1 := [.inv 1 (.reg 5 7), .ret 1 (.reg 5 7) (.bool true)]) (t' := 0) (c' := .get 5)
    (h3 := [.inv 1 (.remove 5)]) rfl
  exact ⟨l1, l2, e, hm 1 _ _ (by simp)⟩

/-- a concrete invoke step satisfying the hypotheses of `ret_before_inv_lin` -/
example : ∃ s', Step demo2 s' ∧ s'.hist = demo2.hist ++ [.inv 2 .clear] :=
  ⟨_, Step.invoke demo2 2 .clear rfl, rfl⟩

end FinProto.Reg
