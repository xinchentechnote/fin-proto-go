/-
  C01 / C07 / C11: decoding what the encoder appended returns the message the encoder reports, consumes
  exactly those bytes, and rejects every proper prefix.  The induction is over `RTe x rd`, a relation between
  an encoder step and a reader with one rule per combinator.  What does not compose by itself is the
  discriminator of a union: the decoder looks it up in the fields it has read, the encoder in the fields it
  was given (`encOp_keyOf`).
-/
import FinProto.Props.DecLemmas
import FinProto.Props.EncLemmas
namespace FinProto

def RTe (x : E α) (rd : R α) : Prop :=
  ∀ pre a out, x pre = .ok (a, out) → ∃ bs, out = pre ++ bs ∧ Reads rd bs a

theorem rte_pure (a : α) : RTe (fun buf => .ok (a, buf) : E α) (pureR a) := by
  intro pre a' out h
  cases h
  exact ⟨[], (List.append_nil _).symm, Reads.pure a⟩

/-- the continuation has to round-trip only for the values the first step can return -/
theorem rte_bindE {x : E α} {rd : R α} {f : α → E β} {g : α → R β} (hx : RTe x rd)
    (hf : ∀ a pre out, x pre = .ok (a, out) → RTe (f a) (g a)) : RTe (bindE x f) (bindR rd g) := by
  intro pre b out h
  obtain ⟨a, mid, h1, h2⟩ := bindE_eq_ok.mp h
  obtain ⟨b1, rfl, hd1⟩ := hx _ _ _ h1
  obtain ⟨b2, rfl, hd2⟩ := hf a _ _ h1 _ _ _ h2
  exact ⟨b1 ++ b2, List.append_assoc _ _ _, hd1.bind hd2⟩

theorem rte_mapE {x : E α} {rd : R α} (f : α → β) (hx : RTe x rd) : RTe (mapE f x) (mapR f rd) := by
  intro pre b out h
  obtain ⟨a, h1, rfl⟩ := mapE_eq_ok.mp h
  obtain ⟨bs, rfl, hd⟩ := hx _ _ _ h1
  exact ⟨bs, rfl, hd.map rfl⟩

theorem rte_encAll {enc : Val → E Val} {dec : R Val} :
    ∀ l : List Val, (∀ v ∈ l, RTe (enc v) dec) → RTe (encAll enc l) (decRep dec l.length)
  | [], _ => rte_pure _
  | v :: vs, h =>
    rte_bindE (h v (List.mem_cons_self ..)) fun _ _ _ _ =>
      rte_mapE _ (rte_encAll vs fun x hx => h x (List.mem_cons_of_mem _ hx))

namespace RT

/-- what the round trip uses of `keysEarlierAux`: a union's key lies before the union (`i` is the position of
    the head of the list); of what kind the key field is does not matter -/
def unionKeysLt : Nat → List Op → Bool
  | _, [] => true
  | i, op :: rest =>
    (match op with
     | .union key _ _ => decide (key < i)
     | _ => true) && unionKeysLt (i + 1) rest

theorem unionKeysLt_of_keysEarlierAux (all : List Op) :
    ∀ (ops : List Op) (i : Nat), keysEarlierAux all i ops = true → unionKeysLt i ops = true
  | [], _ => fun _ => rfl
  | op :: ops, i => fun h => by
    simp only [keysEarlierAux, Bool.and_eq_true] at h
    simp only [unionKeysLt, Bool.and_eq_true]
    refine ⟨?_, unionKeysLt_of_keysEarlierAux all ops (i + 1) h.2⟩
    split
    · simp only [Bool.and_eq_true] at h
      exact h.1.1
    · rfl

theorem unionKeysLt_map_eraseG : ∀ (ops : List Op) (i : Nat), unionKeysLt i (ops.map Op.eraseG) = unionKeysLt i ops
  | [], _ => rfl
  | op :: ops, i => by
    simp only [List.map_cons, unionKeysLt, unionKeysLt_map_eraseG ops]
    cases op <;> rfl

theorem unionKeysLt_of_isScalar : ∀ (ops : List Op) (i : Nat), (∀ op ∈ ops, op.isScalar = true) → unionKeysLt i ops = true
  | [], _ => fun _ => rfl
  | op :: ops, i => fun h => by
    obtain ⟨w, e, rfl⟩ := Op.isScalar_iff.mp (h op (List.mem_cons_self ..))
    simp only [unionKeysLt, Bool.true_and]
    exact unionKeysLt_of_isScalar ops (i + 1) fun o ho => h o (List.mem_cons_of_mem _ ho)

theorem unionKeysLt_append : ∀ (ops1 ops2 : List Op) (i : Nat),
    unionKeysLt i (ops1 ++ ops2) = (unionKeysLt i ops1 && unionKeysLt (i + ops1.length) ops2)
  | [], ops2, i => by simp [unionKeysLt]
  | op :: ops1, ops2, i => by
    simp only [List.cons_append, unionKeysLt, unionKeysLt_append ops1 ops2 (i + 1), List.length_cons,
      Bool.and_assoc]
    congr 3
    omega

end RT

theorem unionTy_eq_of_keys (env : Env) (tbl : Nat) {acc pfx : List Val} (h : acc.map keyOf = pfx.map keyOf)
    {key : Nat} (hk : key < acc.length) (r1 r2 : List Val) :
    unionTy env key tbl (acc ++ r1) = unionTy env key tbl (pfx ++ r2) := by
  have hl : acc.length = pfx.length := by simpa using congrArg List.length h
  have hm : acc[key]?.map keyOf = pfx[key]?.map keyOf := by
    rw [← List.getElem?_map, ← List.getElem?_map, h]
  rw [List.getElem?_eq_getElem hk, List.getElem?_eq_getElem (hl ▸ hk)] at hm
  simp only [unionTy, List.getElem?_append_left hk, List.getElem?_append_left (hl ▸ hk),
    List.getElem?_eq_getElem hk, List.getElem?_eq_getElem (hl ▸ hk), Option.bind_some]
  rw [Option.some.inj hm]

/-! The encoder returns, field by field, a value with the key of the value it was given (canonical or not):
    a leaf returns its input, every other statement takes and returns values that are no keys. -/

theorem encPtr_keyOf {env : Env} {f : Nat} {g : Guard} {mk : Option Val} {ty? : Option Nat} {v v' : Val} {pre out : Bytes}
    (h : encPtr (encTy env f) g mk ty? v pre = .ok (v', out)) : keyOf v' = keyOf v := by
  have msg : ∀ ty w, encTy env f ty w pre = .ok (v', out) → keyOf v' = none := by
    intro ty w hw
    obtain ⟨fs, rfl⟩ := encTy_ok_msg hw
    rfl
  refine encPtr_cases (motive := fun x => x pre = .ok (v', out) → keyOf v' = keyOf v) (encTy env f) g mk ty? v
    (fun _ _ h => by cases h) (fun h => by cases h) (fun _ hv h => ?_)
    (fun z ty _ hv _ _ h => hv ▸ msg ty z h) (fun ty fs hv h => hv ▸ msg ty v h) h
  cases h
  rw [hv]

theorem encOp_keyOf {env : Env} {f : Nat} {zero : Nat → Val} {all : List Val} {op : Op} {v v' : Val} {pre out : Bytes}
    (h : encOp env (encTy env f) zero all op v pre = .ok (v', out)) : keyOf v' = keyOf v := by
  revert h
  refine encOp_cases (motive := fun x => x pre = .ok (v', out) → keyOf v' = keyOf v) env (encTy env f) zero all op v
    ?_ nofun ?_ ?_ ?_ ?_
  · intro o _ _ h
    obtain ⟨_, _, rfl, _⟩ := emit_eq_ok.mp h
    rfl
  · rintro ty g fs _ rfl h
    obtain ⟨fs', rfl⟩ := encTy_ok_msg h
    rfl
  · rintro ty g _ rfl h
    exact encPtr_keyOf h
  · rintro cw ty e l _ rfl h
    obtain ⟨_, _, _, h2⟩ := bindE_eq_ok.mp h
    obtain ⟨l', _, rfl⟩ := mapE_eq_ok.mp h2
    rfl
  · rintro key tbl g _ h
    exact encPtr_keyOf h

theorem encSeq_keyOf {env : Env} {f : Nat} {zero : Nat → Val} {all : List Val} :
    ∀ (ops : List Op) (vs : List Val) {vs' : List Val} {pre out : Bytes},
      encSeq (encOp env (encTy env f) zero all) ops vs pre = .ok (vs', out) → vs'.map keyOf = vs.map keyOf
  | [], [] => fun h => by
    cases h
    rfl
  | [], _ :: _ => fun h => by cases h
  | _ :: _, [] => fun h => by cases h
  | _ :: ops, _ :: vs => fun h => by
    simp only [encSeq, bindE_eq_ok, mapE_eq_ok] at h
    obtain ⟨v1, mid, h1, vs1, h2, rfl⟩ := h
    simp only [List.map_cons, encOp_keyOf h1, encSeq_keyOf ops vs h2]

def TyRT (env : Env) (f : Nat) : Prop :=
  ∀ ty v, canonTy env f ty v = true → RTe (encTy env f ty v) (decTy env f ty)

/-- the encoder was given `all`, the decoder has read `acc`; a union has to select the same body type from
    both (`hU`) -/
theorem rte_encOp {env : Env} {f : Nat} (ih : TyRT env f) {zero : Nat → Val} {all acc : List Val} {op : Op} {v : Val}
    (hw : op.widthsOK = true)
    (hU : ∀ key tbl g, op = .union key tbl g → unionTy env key tbl acc = unionTy env key tbl all)
    (hc : canonOp env (canonTy env f) all op v = true) :
    RTe (encOp env (encTy env f) zero all op v) (decOp env (decTy env f) acc op) := by
  intro pre v' out he
  cases op using Op.leafCases with
  | leaf op hl =>
    obtain ⟨bs, hbs, rfl, rfl⟩ := (encOp_leaf_eq_ok hl).mp he
    rw [decOp_leaf _ _ _ hl]
    exact ⟨bs, rfl, Op.read_write hw hc hbs⟩
  | nested ty g =>
    obtain ⟨fs, rfl, hcan⟩ := canonOp_nested.mp hc
    simp only [encOp, ↓reduceIte] at he
    exact ih _ _ hcan _ _ _ he
  | objs cw ty e =>
    obtain ⟨l, rfl, _, hcan⟩ := canonOp_objs.mp hc
    simp only [encOp, bindE_eq_ok, mapE_eq_ok] at he
    obtain ⟨_, mid, h1, l', h2, rfl⟩ := he
    obtain ⟨c, hc1, _, rfl⟩ := emit_eq_ok.mp h1
    obtain ⟨hlen, rfl⟩ := writeLen_eq_ok.mp hc1
    obtain ⟨bs, rfl, hd⟩ := rte_encAll l (fun x hx => ih ty x (hcan x hx).2) _ _ _ h2
    exact ⟨_, List.append_assoc _ _ _, (Reads.prefixed (width124_le_seven hw) hlen hd).map rfl⟩
  | union key tbl g =>
    obtain ⟨bty, fs, hu, rfl, hcan⟩ := canonOp_union.mp hc
    simp only [encOp, encPtr] at he
    obtain ⟨bs, rfl, hd⟩ := ih _ _ hcan _ _ _ he
    refine ⟨bs, rfl, ?_⟩
    simp only [decOp, hU key tbl g rfl, hu, optR_some]
    exact hd
  | «opaque» => cases v <;> cases hc

/-- a statement list, run by the encoder on the part `vs` of the field list `all = pfx ++ vs ++ sfx`, while
    the decoder has read `acc`, which has the keys of `pfx` -/
theorem rte_encSeq {env : Env} {f : Nat} (ih : TyRT env f) {zero : Nat → Val} {all : List Val} :
    ∀ (ops : List Op) (vs acc pfx sfx : List Val), all = pfx ++ vs ++ sfx → acc.map keyOf = pfx.map keyOf →
      (∀ op ∈ ops, op.widthsOK = true) → RT.unionKeysLt acc.length ops = true →
      canonSeq (canonOp env (canonTy env f) all) ops vs = true →
      RTe (mapE (acc ++ ·) (encSeq (encOp env (encTy env f) zero all) ops vs))
        (decSeq (decOp env (decTy env f)) ops acc)
  | [], [] => by
    intro acc _ _ _ _ _ _ _ pre a out h
    cases h
    simp only [List.append_nil]
    exact ⟨[], (List.append_nil _).symm, Reads.pure acc⟩
  | [], _ :: _ => fun _ _ _ _ _ _ _ hc => by cases hc
  | _ :: _, [] => fun _ _ _ _ _ _ _ hc => by cases hc
  | op :: ops, v :: vs => by
    intro acc pfx sfx hall hkeys hw hk hc
    simp only [canonSeq, Bool.and_eq_true] at hc
    simp only [RT.unionKeysLt, Bool.and_eq_true] at hk
    have hU : ∀ key tbl g, op = .union key tbl g → unionTy env key tbl acc = unionTy env key tbl all := by
      rintro key tbl g rfl
      have := unionTy_eq_of_keys env tbl hkeys (key := key) (by simpa using hk.1) [] (v :: vs ++ sfx)
      rwa [List.append_nil, ← List.append_assoc, ← hall] at this
    show RTe (mapE (acc ++ ·) (bindE _ _)) (bindR _ _)
    rw [mapE_bindE]
    refine rte_bindE (rte_encOp ih (hw op (List.mem_cons_self ..)) hU hc.1) fun v1 _ _ h1 => ?_
    have hkey := encOp_keyOf h1
    have hrec := rte_encSeq ih (zero := zero) ops vs (acc ++ [v1]) (pfx ++ [v]) sfx (by simp [hall]) (by simp [hkeys, hkey])
      (fun o ho => hw o (List.mem_cons_of_mem _ ho)) (by simpa using hk.2) hc.2
    have e : ((fun l => acc ++ l) ∘ fun l => v1 :: l) = fun l => acc ++ [v1] ++ l := by
      funext l
      simp
    rw [mapE_mapE, e]
    exact hrec

theorem rte_frame {env : Env} {f : Nat} (ih : TyRT env f) {ty : Nat} {td : TyDef} {fd : FrameDesc}
    {fields : List Val} {v' : Val} {pre out : Bytes} (htd : env.types[ty]? = some td) (hfr : td.frame = some fd)
    (hm : env.mirrorOK = true) (hwid : ∀ op ∈ fd.hdr, op.widthsOK = true)
    (hc : canonTy env (f + 1) ty (.msg ty fields) = true)
    (he : encTy env (f + 1) ty (.msg ty fields) pre = .ok (v', out)) :
    ∃ fs' bs, v' = .msg ty fs' ∧ out = pre ++ bs ∧ Reads (decSeq (decOp env (decTy env f)) fd.decOps []) bs fs' := by
  obtain ⟨_, hcH, body, h2, hcB⟩ := (canonTy_frame htd hfr).mp hc
  obtain ⟨_, _, hsc, hkey, hlenW, hcw⟩ := Env.mirrorOK_frame hm htd hfr
  obtain ⟨hv, hb, body0, body', bb, h1, h2', h3, _, rfl, rfl⟩ := (encTy_frame_eq_ok htd hfr).mp he
  cases h2.symm.trans h2'
  have hlv : hv.length = fd.hdr.length := (encSeq_length h1).2
  obtain ⟨_, rfl, hdH⟩ := rte_encSeq ih fd.hdr (fields.take fd.hdr.length) [] [] (fields.drop fd.hdr.length)
    (by simp) rfl hwid (RT.unionKeysLt_of_isScalar _ _ hsc) hcH [] hv hb
    (mapE_eq_ok.mpr ⟨hv, h1, rfl⟩)
  have hdL : Reads (decOp env (decTy env f) hv (.scalar fd.lenW fd.e)) (toE fd.e fd.lenW (frameLen bb))
      (.num (frameLen bb)) :=
    (readScalar_writeScalar (by rw [hlenW]; exact frameLen_lt bb)).map rfl
  -- the body's key is a header field, which the header run returned with the key it was given
  rw [← encOp_union] at h3
  have hU : unionTy env fd.key fd.tbl (hv ++ [.num (frameLen bb)]) = unionTy env fd.key fd.tbl fields := by
    have := unionTy_eq_of_keys env fd.tbl (acc := hv) (key := fd.key)
      (encSeq_keyOf _ _ h1) (by omega) [.num (frameLen bb)]
      (fields.drop fd.hdr.length)
    rwa [List.take_append_drop] at this
  obtain ⟨_, rfl, hdB⟩ := rte_encOp (acc := hv ++ [.num (frameLen bb)]) ih (by rfl)
    (by rintro key tbl g ⟨⟩; exact hU) hcB [] body' bb h3
  -- the decoder's statement has the guard `.mat`, which `decOp` does not look at
  replace hdB : Reads (decOp env (decTy env f) (hv ++ [.num (frameLen bb)]) (.union fd.key fd.tbl .mat)) bb body' :=
    hdB
  refine ⟨_, _, rfl, rfl, ?_⟩
  rw [FrameDesc.decOps_eq, decSeq_append, frameBytes, List.append_assoc, List.append_assoc, List.append_cons hv,
    List.append_cons (hv ++ _)]
  exact hdH.bind (hdL.bind (hdB.bind (decSeq_cksOps_trailer hcw _ _)))

theorem rte_encTy (env : Env) (hm : env.mirrorOK = true) (hk : env.keysOK = true)
    (hw : env.widthsOK = true) : ∀ f, TyRT env f := by
  intro f
  induction f with
  | zero =>
    intro ty v hc
    cases hc
  | succ f ih =>
    intro ty v hc pre v' out he
    obtain ⟨fields, td, rfl, htd⟩ := encTy_succ_inv he
    obtain ⟨_, hwE, hwH⟩ := Env.widthsOK_at hw htd
    have hdec : ∀ (ops : List Op) (fs' : List Val) (bs : Bytes), td.dec.map Op.eraseG = ops.map Op.eraseG →
        Reads (decSeq (decOp env (decTy env f)) ops []) bs fs' → Reads (decTy env (f + 1) ty) bs (.msg ty fs') := by
      intro ops fs' bs hmir h
      rw [decTy, htd, optR_some, decSeq_eraseG env _ ops td.dec [] hmir]
      exact h.map rfl
    cases hfr : td.frame with
    | none =>
      rw [canonTy_plain htd hfr] at hc
      obtain ⟨fs', he', rfl⟩ := (encTy_plain_eq_ok htd hfr).mp he
      have hmir := (Env.mirrorOK_plain hm htd hfr).1
      have hkeys : RT.unionKeysLt 0 td.enc = true := by
        rw [← RT.unionKeysLt_map_eraseG td.enc, hmir, RT.unionKeysLt_map_eraseG]
        exact RT.unionKeysLt_of_keysEarlierAux td.dec td.dec 0 (Env.keysOK_at hk htd)
      obtain ⟨bs, rfl, hd⟩ := rte_encSeq ih td.enc fields [] [] [] (by simp) rfl hwE hkeys hc pre fs' out
        (mapE_eq_ok.mpr ⟨fs', he', rfl⟩)
      exact ⟨bs, rfl, hdec td.enc fs' bs hmir.symm hd⟩
    | some fd =>
      obtain ⟨fs', bs, rfl, rfl, hd⟩ := rte_frame ih htd hfr hm (hwH fd hfr) hc he
      exact ⟨bs, rfl, hdec fd.decOps fs' bs (Env.mirrorOK_frame hm htd hfr).1 hd⟩

def TySame (env : Env) (f : Nat) : Prop :=
  ∀ ty v pre v' out, env.isFrame ty = false → canonTy env f ty v = true →
    encTy env f ty v pre = .ok (v', out) → v' = v

theorem same_encOp {env : Env} {f : Nat} (ih : TySame env f) (ht : env.framesTop = true) {zero : Nat → Val}
    {all : List Val} {op : Op} {v v' : Val} {pre out : Bytes}
    (hnf : op.noFrame env = true)
    (hc : canonOp env (canonTy env f) all op v = true)
    (he : encOp env (encTy env f) zero all op v pre = .ok (v', out)) : v' = v := by
  cases op using Op.leafCases with
  | leaf op hl =>
    obtain ⟨_, _, rfl, _⟩ := (encOp_leaf_eq_ok hl).mp he
    rfl
  | nested ty g =>
    obtain ⟨fs, rfl, hcan⟩ := canonOp_nested.mp hc
    simp only [encOp, ↓reduceIte] at he
    simp only [Op.noFrame, Bool.not_eq_true'] at hnf
    exact ih _ _ _ _ _ hnf hcan he
  | objs cw ty e =>
    obtain ⟨l, rfl, _, hcan⟩ := canonOp_objs.mp hc
    simp only [encOp, bindE_eq_ok, mapE_eq_ok] at he
    obtain ⟨_, mid, _, l', h2, rfl⟩ := he
    simp only [Op.noFrame, Bool.not_eq_true'] at hnf
    rw [same_encAll l (fun x hx pre v' out => ih ty x pre v' out hnf (hcan x hx).2) h2]
  | union key tbl g =>
    obtain ⟨bty, fs, hu, rfl, hcan⟩ := canonOp_union.mp hc
    simp only [encOp, encPtr] at he
    exact ih _ _ _ _ _ (Env.framesTop_unionTy ht hu) hcan he
  | «opaque» => cases v <;> cases hc

theorem same_encTy (env : Env) (ht : env.framesTop = true) : ∀ f, TySame env f := by
  intro f
  induction f with
  | zero =>
    intro ty v pre v' out _ hc
    cases hc
  | succ f ih =>
    intro ty v pre v' out hnf hc he
    obtain ⟨fields, td, rfl, htd⟩ := encTy_succ_inv he
    have hfr := Env.frame_eq_none htd hnf
    rw [canonTy_plain htd hfr] at hc
    obtain ⟨fs', he', rfl⟩ := (encTy_plain_eq_ok htd hfr).mp he
    rw [same_encSeq td.enc fields (fun op hop _ _ _ _ hc he =>
      same_encOp ih ht ((Env.framesTop_at ht htd).2 op hop) hc he) hc he']

theorem frame_fields_agree {fields vt : List Val} {n : Nat} {x body : Val}
    (hb : fields[n + 1]? = some body) (hl : fields.length = n + 2 + vt.length) (hvt : vt.length ≤ 1) :
    ∀ i, i ≠ n → i ≠ n + 2 → (fields.take n ++ x :: body :: vt)[i]? = fields[i]? := by
  intro i h1 h2
  have hlt : (fields.take n).length = n := List.length_take_of_le (by omega)
  rcases Nat.lt_or_ge i n with hi | hi
  · rw [List.getElem?_append_left (hlt.symm ▸ hi), List.getElem?_take_of_lt hi]
  · rw [List.getElem?_append_right (hlt.symm ▸ hi), hlt]
    obtain rfl | hi3 : i = n + 1 ∨ n + 3 ≤ i := by omega
    · rw [hb, Nat.add_sub_cancel_left]
      rfl
    · -- beyond the body both lists have at most the checksum position `n + 2`, which is excluded
      rw [List.getElem?_eq_none (by simp only [List.length_cons]; omega), List.getElem?_eq_none (by omega)]

/-- **C01** (and the "exactly one message" half of C07).  For every value of the canonical domain,
    decoding the bytes the encoder appended, followed by ARBITRARY further bytes `rest`, yields exactly
    the message the encoder reports (`v'` = `v` with a frame's self-computed length and checksum set to
    their correct values, whatever the caller had put there) and leaves `rest` untouched. -/
theorem roundtrip (env : Env) (hm : env.mirrorOK = true) (hk : env.keysOK = true)
    (hw : env.widthsOK = true) :
    ∀ f ty v pre v' out, canonTy env f ty v = true → encTy env f ty v pre = .ok (v', out) →
      ∃ bs, out = pre ++ bs ∧ ∀ rest, decTy env f ty (bs ++ rest) = .ok (v', rest) :=
  fun f ty v pre v' out hc he => rte_encTy env hm hk hw f ty v hc pre v' out he

theorem roundtrip_exact_nil (env : Env) (hm : env.mirrorOK = true) (hk : env.keysOK = true)
    (hw : env.widthsOK = true) {f ty : Nat} {v v' : Val} {w : Bytes}
    (hc : canonTy env f ty v = true) (he : encTy env f ty v [] = .ok (v', w)) :
    decTy env f ty w = .ok (v', []) := by
  obtain ⟨bs, rfl, hd⟩ := roundtrip env hm hk hw f ty v [] v' w hc he
  exact Reads.exact hd

/-- what `v'` is, non-frame types: the encoder reports the canonical message it was given, unchanged.
    (`framesTop`: frames occur only at the top level — without it a nested frame's length/checksum
    fields would change deep inside `v`.) -/
theorem enc_canon_val (env : Env) (ht : env.framesTop = true) :
    ∀ f ty v pre v' out, env.isFrame ty = false → canonTy env f ty v = true →
      encTy env f ty v pre = .ok (v', out) → v' = v :=
  fun f => same_encTy env ht f

/-- what `v'` is, frame types: header fields and body are the caller's; only the length field
    (position `fd.hdr.length`) and the checksum field (position `fd.hdr.length + 2`, if any) are
    replaced, by the values `frame_shape` / `frame_len_exact` / `frame_cks_exact` describe -/
theorem enc_canon_val_frame (env : Env) (hm : env.mirrorOK = true) (ht : env.framesTop = true)
    {f ty : Nat} {td : TyDef} {fd : FrameDesc} {v v' : Val} {pre out : Bytes}
    (htd : env.types[ty]? = some td) (hfr : td.frame = some fd)
    (hc : canonTy env f ty v = true) (he : encTy env f ty v pre = .ok (v', out)) :
    ∃ fields body len vt,
      v = .msg ty fields ∧ fields[fd.hdr.length + 1]? = some body ∧
      v' = .msg ty (fields.take fd.hdr.length ++ .num len :: body :: vt) ∧
      fields.length = fd.hdr.length + 2 + vt.length ∧
      ((fd.cks = none ∧ vt = []) ∨ (∃ a w c, fd.cks = some (a, w) ∧ vt = [.num c])) ∧
      ∃ fs', v' = .msg ty fs' ∧ fs'.length = fields.length ∧
        ∀ i, i ≠ fd.hdr.length → i ≠ fd.hdr.length + 2 → fs'[i]? = fields[i]? := by
  cases f with
  | zero => cases hc
  | succ f =>
    obtain ⟨fields, td', rfl, htd'⟩ := encTy_succ_inv he
    cases htd.symm.trans htd'
    obtain ⟨_, hcH, body, h2, hcB⟩ := (canonTy_frame htd hfr).mp hc
    obtain ⟨hv, hb, body0, body', bb, h1, h2', h3, hl, rfl, rfl⟩ := (encTy_frame_eq_ok htd hfr).mp he
    cases h2.symm.trans h2'
    have ih := same_encTy env ht f
    have hsc := (Env.mirrorOK_frame hm htd hfr).2.2.1
    obtain rfl : hv = fields.take fd.hdr.length :=
      same_encSeq fd.hdr _ (fun op hop _ _ _ _ hc he =>
        same_encOp ih ht (Op.noFrame_of_isScalar (hsc op hop)) hc he) hcH h1
    obtain rfl : body' = body := by
      rw [← encOp_union] at h3
      exact same_encOp ih ht (by rfl) hcB h3
    have hvt : (fd.cks = none ∧ (fd.trailer (frameBytes fd hb bb)).1 = []) ∨
        ∃ a w c, fd.cks = some (a, w) ∧ (fd.trailer (frameBytes fd hb bb)).1 = [.num c] := by
      rcases hc : fd.cks with _ | ⟨a, w⟩
      · exact .inl ⟨rfl, by simp only [FrameDesc.trailer, hc]⟩
      · exact .inr ⟨a, w, cksNat a (frameBytes fd hb bb), rfl, by simp only [FrameDesc.trailer, hc]⟩
    have hvt1 : (fd.trailer (frameBytes fd hb bb)).1.length ≤ 1 := by
      rcases hvt with ⟨_, h⟩ | ⟨_, _, _, _, h⟩ <;>
        simp only [h, List.length_nil, List.length_singleton, Nat.zero_le, Nat.le_refl]
    refine ⟨fields, body', _, _, rfl, h2, rfl, hl, hvt, _, rfl, ?_, frame_fields_agree h2 hl hvt1⟩
    rw [(take_frameFields (encSeq_length h1).2 _ _ _).2.2, hl]

theorem encMany_length {env : Env} {f : Nat} (ms : List (Nat × Val)) {pre out : Bytes} {vs' : List Val}
    (h : encMany env f ms pre = .ok (vs', out)) : vs'.length = ms.length := by
  induction ms generalizing pre vs' with
  | nil =>
    cases h
    rfl
  | cons m ms ih =>
    simp only [encMany, bindE_eq_ok, mapE_eq_ok] at h
    obtain ⟨v1, mid, _, vs1, h2, rfl⟩ := h
    simp only [List.length_cons, ih h2]

theorem rte_encMany {env : Env} {f : Nat} (h : TyRT env f) :
    ∀ ms : List (Nat × Val), (∀ m ∈ ms, canonTy env f m.1 m.2 = true) →
      RTe (encMany env f ms) (decMany env f (ms.map (·.1)))
  | [], _ => rte_pure _
  | m :: ms, hc =>
    rte_bindE (h _ _ (hc m (List.mem_cons_self ..))) fun _ _ _ _ =>
      rte_mapE _ (rte_encMany h ms fun x hx => hc x (List.mem_cons_of_mem _ hx))

/-- **C07**: canonical messages of mixed types encoded one after another into one buffer are read back
    by as many successive decodes, in order, as the messages the encoder reported; whatever followed
    them (`rest`) is left untouched -/
theorem stream_rest (env : Env) (hm : env.mirrorOK = true) (hk : env.keysOK = true)
    (hw : env.widthsOK = true) (f : Nat) (ms : List (Nat × Val)) (pre : Bytes) (vs' : List Val) (out : Bytes)
    (hc : ∀ m ∈ ms, canonTy env f m.1 m.2 = true) (he : encMany env f ms pre = .ok (vs', out)) :
    ∃ bs, out = pre ++ bs ∧ vs'.length = ms.length ∧
      ∀ rest, decMany env f (ms.map (·.1)) (bs ++ rest) = .ok (vs', rest) := by
  obtain ⟨bs, rfl, hd⟩ := rte_encMany (rte_encTy env hm hk hw f) ms hc pre vs' out he
  exact ⟨bs, rfl, encMany_length ms he, hd⟩

/-- **C07**, the stream holding exactly the `n` messages: `n` decodes return them and leave `[]` -/
theorem stream (env : Env) (hm : env.mirrorOK = true) (hk : env.keysOK = true)
    (hw : env.widthsOK = true) (f : Nat) (ms : List (Nat × Val)) (vs' : List Val) (w : Bytes)
    (hc : ∀ m ∈ ms, canonTy env f m.1 m.2 = true) (he : encMany env f ms [] = .ok (vs', w)) :
    decMany env f (ms.map (·.1)) w = .ok (vs', []) ∧ vs'.length = ms.length := by
  obtain ⟨bs, rfl, hlen, hd⟩ := stream_rest env hm hk hw f ms [] vs' w hc he
  exact ⟨Reads.exact hd, hlen⟩

/-- **C11**: every proper prefix of the encoding of a canonical message is rejected with an error
    (not accepted, and no panic) -/
theorem truncated_rejected (env : Env) (hm : env.mirrorOK = true) (hk : env.keysOK = true)
    (hw : env.widthsOK = true) {f ty : Nat} {v v' : Val} {w : Bytes} {k : Nat}
    (hc : canonTy env f ty v = true) (he : encTy env f ty v [] = .ok (v', w)) (hlt : k < w.length) :
    decTy env f ty (w.take k) = .err :=
  (dec_ok_or_err hw f ty (w.take k)).resolve_left fun ⟨v'', r, h⟩ =>
    dec_truncated_not_ok (roundtrip_exact_nil env hm hk hw hc he) hlt v'' r h

namespace RoundTripEx

theorem pinned_mirrorOK : Pinned.env.mirrorOK = true := Pinned.mirrorOK
theorem pinned_keysOK : Pinned.env.keysOK = true := Pinned.keysOK
theorem pinned_widthsOK : Pinned.env.widthsOK = true := Pinned.widthsOK
theorem pinned_framesTop : Pinned.env.framesTop = true := Pinned.framesTop

/-- an SSE frame (type 96) holding a Logon (type 89; MsgType 40), with a STALE length (999) and a stale
    checksum (12345) supplied by the caller -/
def exLogon : Val :=
  .msg 96 [.num 40, .num 7, .num 999,
    .msg 89 [.str [65, 66, 67], .str [88, 89], .num 30, .str [49, 46, 48, 48], .num 20260929, .num 100],
    .num 12345]

/-- an SSE frame holding a Heartbeat (type 88, no fields; MsgType 33) -/
def exHeartbeat : Val := .msg 96 [.num 33, .num 8, .num 0, .msg 88 [], .num 0]

theorem exLogon_canon : canonTy Pinned.env 3 96 exLogon = true := by decide +kernel
theorem exHeartbeat_canon : canonTy Pinned.env 3 96 exHeartbeat = true := by decide +kernel

/-- what the encoder reports for `exLogon`: length 82 = 32+32+2+8+4+4 instead of 999, checksum 184
    instead of 12345 -/
def exLogon' : Val :=
  .msg 96 [.num 40, .num 7, .num 82,
    .msg 89 [.str [65, 66, 67], .str [88, 89], .num 30, .str [49, 46, 48, 48], .num 20260929, .num 100],
    .num 184]

def exLogonBytes : Bytes :=
  [0, 0, 0, 40, 0, 0, 0, 0, 0, 0, 0, 7, 0, 0, 0, 82, 65, 66, 67, 32, 32, 32, 32, 32, 32, 32, 32, 32, 32, 32,
    32, 32, 32, 32, 32, 32, 32, 32, 32, 32, 32, 32, 32, 32, 32, 32, 32, 32, 88, 89, 32, 32, 32, 32, 32, 32, 32, 32, 32,
    32, 32, 32, 32, 32, 32, 32, 32, 32, 32, 32, 32, 32, 32, 32, 32, 32, 32, 32, 32, 32, 0, 30, 49, 46, 48, 48, 32, 32,
    32, 32, 1, 53, 40, 65, 0, 0, 0, 100, 0, 0, 0, 184]

def exHeartbeat' : Val := .msg 96 [.num 33, .num 8, .num 0, .msg 88 [], .num 41]
def exHeartbeatBytes : Bytes := [0, 0, 0, 33, 0, 0, 0, 0, 0, 0, 0, 8, 0, 0, 0, 0, 0, 0, 0, 41]

theorem exLogon_enc :
    encTy Pinned.env 3 96 exLogon [0xAA, 0xBB] = .ok (exLogon', [0xAA, 0xBB] ++ exLogonBytes) :=
  Outcome.ok_of_eqb (by decide +kernel)

theorem exHeartbeat_enc : encTy Pinned.env 3 96 exHeartbeat [] = .ok (exHeartbeat', exHeartbeatBytes) :=
  Outcome.ok_of_eqb (by decide +kernel)

example : ∀ rest, decTy Pinned.env 3 96 (exLogonBytes ++ rest) = .ok (exLogon', rest) := by
  obtain ⟨bs, hout, hd⟩ := roundtrip Pinned.env pinned_mirrorOK pinned_keysOK pinned_widthsOK
    3 96 exLogon _ _ _ exLogon_canon exLogon_enc
  cases List.append_cancel_left hout
  exact hd

example : ∀ i, i ≠ 2 → i ≠ 4 → ∃ fs fs', exLogon = .msg 96 fs ∧ exLogon' = .msg 96 fs' ∧ fs'[i]? = fs[i]? := by
  obtain ⟨fields, _, _, _, h1, _, _, _, _, fs', h2, _, h3⟩ :=
    enc_canon_val_frame Pinned.env pinned_mirrorOK pinned_framesTop (fd := _)
      (show Pinned.env.types[96]? = some Pinned.t96 from rfl) rfl exLogon_canon exLogon_enc
  exact fun i hi hj => ⟨fields, fs', h1, h2, h3 i hi hj⟩

theorem exStream_enc :
    encMany Pinned.env 3 [(96, exLogon), (96, exHeartbeat), (96, exLogon)] [] =
      .ok ([exLogon', exHeartbeat', exLogon'], exLogonBytes ++ exHeartbeatBytes ++ exLogonBytes) := by
  have h1 := enc_context_free exLogon_enc
  have h2 : encTy Pinned.env 3 96 exHeartbeat [] = .ok (exHeartbeat', [] ++ exHeartbeatBytes) := exHeartbeat_enc
  have h2 := enc_context_free h2
  simp only [encMany, bindE, mapE, h1, h2, Outcome.bind_ok, Outcome.map_ok, List.nil_append]

example : decMany Pinned.env 3 [96, 96, 96] (exLogonBytes ++ exHeartbeatBytes ++ exLogonBytes) =
    .ok ([exLogon', exHeartbeat', exLogon'], []) :=
  (stream Pinned.env pinned_mirrorOK pinned_keysOK pinned_widthsOK 3 _ _ _
    (by
      intro m hm
      simp only [List.mem_cons, List.not_mem_nil, or_false] at hm
      rcases hm with rfl | rfl | rfl
      · exact exLogon_canon
      · exact exHeartbeat_canon
      · exact exLogon_canon) exStream_enc).1

example : ∀ k, k < 20 → decTy Pinned.env 3 96 (exHeartbeatBytes.take k) = .err := fun _ hk =>
  truncated_rejected Pinned.env pinned_mirrorOK pinned_keysOK pinned_widthsOK exHeartbeat_canon
    exHeartbeat_enc hk

/-- a Logon on its own (non-frame type 89) is reported unchanged (by evaluation; `enc_canon_val` is the general
    statement) -/
example : ∃ out, encTy Pinned.env 2 89
    (.msg 89 [.str [65, 66, 67], .str [88, 89], .num 30, .str [49, 46, 48, 48], .num 20260929, .num 100]) [] =
    .ok (.msg 89 [.str [65, 66, 67], .str [88, 89], .num 30, .str [49, 46, 48, 48], .num 20260929, .num 100], out) :=
  ⟨_, rfl⟩

example : Pinned.env.isFrame 89 = false ∧ Pinned.env.isFrame 96 = true := by decide +kernel

/-- outside the canonical domain the conclusion fails: a fixed text ending in the pad byte (space = 32)
    is encoded fine but comes back trimmed, so `canonTy` is not a superfluous hypothesis -/
example : ∃ v' w v'', encTy Pinned.env 2 89
    (.msg 89 [.str [65, 32], .str [], .num 0, .str [], .num 0, .num 0]) [] = .ok (v', w) ∧
    decTy Pinned.env 2 89 w = .ok (v'', []) ∧
    v' = .msg 89 [.str [65, 32], .str [], .num 0, .str [], .num 0, .num 0] ∧
    v'' = .msg 89 [.str [65], .str [], .num 0, .str [], .num 0, .num 0] :=
  ⟨_, _, _, rfl, rfl, rfl, rfl⟩

end RoundTripEx

end FinProto
