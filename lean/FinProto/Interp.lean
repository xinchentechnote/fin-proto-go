/-
  The schema interpreter: what `Encode` / `Decode` of a message type do, as a function of the op lists
  the translator extracted.  Structural recursion on fuel; sequences and repetitions go through
  named combinators only.
-/
import FinProto.Prim
import FinProto.Schema
namespace FinProto

/-! ### decoding -/

def optR (o : Option α) (k : α → R β) : R β :=
  match o with
  | some a => k a
  | none => failR

@[simp] theorem optR_some (a : α) (k : α → R β) : optR (some a) k = k a := rfl
@[simp] theorem optR_none (k : α → R β) : optR (none : Option α) k = failR := rfl

theorem optR_eq_ok {o : Option α} {k : α → R β} {b : Bytes} {p : β × Bytes} :
    optR o k b = .ok p ↔ ∃ a, o = some a ∧ k a b = .ok p := by
  cases o with
  | none => exact ⟨nofun, fun ⟨_, h, _⟩ => nomatch h⟩
  | some a => exact ⟨fun h => ⟨a, rfl, h⟩, fun ⟨_, h1, h2⟩ => Option.some.inj h1 ▸ h2⟩

/-- the body type a union op selects, given the fields decoded (or held) so far -/
def unionTy (env : Env) (key tbl : Nat) (fields : List Val) : Option Nat :=
  (fields[key]?.bind keyOf).bind (env.lookup tbl)

def decOp (env : Env) (decTy : Nat → R Val) (acc : List Val) : Op → R Val
  | .scalar w e => mapR Val.num (readScalar w e)
  | .fixed n pad left => mapR Val.str (readFixed n (UInt8.ofNat pad) left)
  | .vstr pw e => mapR Val.str (readVstr pw e)
  | .nums cw w e => mapR Val.nums (readNums cw w e)
  | .fixeds cw n pad left e => mapR Val.strs (readFixeds cw n (UInt8.ofNat pad) left e)
  | .vstrs cw pw e => mapR Val.strs (readVstrs cw pw e)
  | .nested ty _ => decTy ty
  | .objs cw ty e => mapR Val.msgs (readList cw e (decTy ty))
  | .union key tbl _ => optR (unionTy env key tbl acc) decTy
  | .opaque => failR

/-- statements run in order; each sees the fields assigned so far (a union reads its key there) -/
def decSeq (step : List Val → Op → R Val) : List Op → List Val → R (List Val)
  | [], acc => pureR acc
  | op :: ops, acc => bindR (step acc op) (fun v => decSeq step ops (acc ++ [v]))

def decTy (env : Env) : Nat → Nat → R Val
  | 0, _ => failR
  | f+1, ty => optR env.types[ty]? (fun td =>
      mapR (Val.msg ty) (decSeq (decOp env (decTy env f)) td.dec []))

/-! ### zero values (what `&T{}` holds) -/

def zeroOp (zeroTy : Nat → Val) : Op → Val
  | .scalar _ _ => .num 0
  | .fixed _ _ _ => .str []
  | .vstr _ _ => .str []
  | .nums _ _ _ => .nums []
  | .fixeds _ _ _ _ _ => .strs []
  | .vstrs _ _ _ => .strs []
  | .nested ty g => if g = .val then zeroTy ty else .nil
  | .objs _ _ _ => .msgs []
  | .union _ _ _ => .nil
  | .opaque => .nil

def zeroTy (env : Env) : Nat → Nat → Val
  | 0, _ => .nil
  | f+1, ty =>
    match env.types[ty]? with
    | some td => .msg ty (td.dec.map (zeroOp (zeroTy env f)))
    | none => .nil

/-! ### encoding (threads the output buffer, as the Go code does) -/

/-- an encoder step: buffer in, updated value and buffer out -/
abbrev E (α : Type) := Bytes → Outcome (α × Bytes)

def errE : E α := fun _ => .err
def panicE : E α := fun _ => .panic
def bindE (x : E α) (f : α → E β) : E β := fun buf => (x buf).bind (fun p => f p.1 p.2)
def mapE (f : α → β) (x : E α) : E β := fun buf => (x buf).map (fun p => (f p.1, p.2))
/-- append the primitive's output to the buffer and keep the field value -/
def emit (v : α) (o : Outcome Bytes) : E α := fun buf => o.map (fun bs => (v, buf ++ bs))

/-! `E α` and `R α` are the same type and `bindE` unfolds to `bindR`: what is proved of readers (`bindR_eq_ok`,
    the predicate `NoPanic` and its rules) holds of encoder steps as it stands. -/

theorem bindE_eq_ok {x : E α} {f : α → E β} {pre out : Bytes} {b : β} :
    bindE x f pre = .ok (b, out) ↔ ∃ a mid, x pre = .ok (a, mid) ∧ f a mid = .ok (b, out) :=
  bindR_eq_ok

theorem mapE_eq_mapR (f : α → β) (x : E α) : mapE f x = mapR f x :=
  funext fun buf => (mapR_apply f x buf).symm

theorem mapE_eq_ok {x : E α} {f : α → β} {pre out : Bytes} {b : β} :
    mapE f x pre = .ok (b, out) ↔ ∃ a, x pre = .ok (a, out) ∧ f a = b := by
  rw [mapE_eq_mapR]
  exact mapR_eq_ok

theorem mapE_bindE {x : E α} {f : α → E β} (g : β → γ) :
    mapE g (bindE x f) = bindE x fun a => mapE g (f a) := by
  funext buf
  simp only [mapE, bindE]
  cases x buf <;> rfl

theorem mapE_mapE {x : E α} (f : α → β) (g : β → γ) : mapE g (mapE f x) = mapE (g ∘ f) x := by
  funext buf
  simp only [mapE]
  cases x buf <;> rfl

theorem emit_eq_ok {v v' : α} {o : Outcome Bytes} {pre out : Bytes} :
    emit v o pre = .ok (v', out) ↔ ∃ bs, o = .ok bs ∧ v' = v ∧ out = pre ++ bs := by
  simp only [emit, Outcome.map_eq_ok, Prod.mk.injEq, @eq_comm _ v', @eq_comm _ out]

theorem np_mapE {x : E α} (f : α → β) (hx : NoPanic x) : NoPanic (mapE f x) :=
  fun pre => Outcome.map_ne_panic _ (hx pre)

theorem np_emit (v : α) {o : Outcome Bytes} (ho : o ≠ .panic) : NoPanic (emit v o) :=
  fun _ => Outcome.map_ne_panic _ ho

/-- `binary.<Order>.PutUint32(buf.Bytes()[pos:pos+4], v)` -/
def patch (buf : Bytes) (pos : Nat) (bs : Bytes) : Bytes :=
  buf.take pos ++ bs ++ buf.drop (pos + bs.length)

def encSeq (step : Op → Val → E Val) : List Op → List Val → E (List Val)
  | [], [] => fun buf => .ok ([], buf)
  | op :: ops, v :: vs => bindE (step op v) (fun v' => mapE (fun vs' => v' :: vs') (encSeq step ops vs))
  | _, _ => errE

/-- WriteObjectList's loop -/
def encAll (f : Val → E Val) : List Val → E (List Val)
  | [] => fun buf => .ok ([], buf)
  | v :: vs => bindE (f v) (fun v' => mapE (fun vs' => v' :: vs') (encAll f vs))

/-- a pointer / interface field: absent values are dereferenced, materialised or skipped -/
def encPtr (encTy : Nat → Val → E Val) (g : Guard) (mk : Option Val) (ty? : Option Nat) : Val → E Val
  | .nil =>
    match g with
    | .none => panicE
    | .val => errE
    | .skip => fun buf => .ok (.nil, buf)
    | .mat =>
      match mk, ty? with
      | some z, some ty => encTy ty z
      | _, _ => errE
  | .msg ty' fs => encTy ty' (.msg ty' fs)
  | _ => errE

def encOp (env : Env) (encTy : Nat → Val → E Val) (zero : Nat → Val) (all : List Val) : Op → Val → E Val
  | .scalar w e, .num n => emit (.num n) (.ok (writeScalar w e n))
  | .fixed n pad left, .str s => emit (.str s) (.ok (writeFixed n (UInt8.ofNat pad) left s))
  | .vstr pw e, .str s => emit (.str s) (writeVstr pw e s)
  | .nums cw w e, .nums l => emit (.nums l) (writeNums cw w e l)
  | .fixeds cw n pad left e, .strs l => emit (.strs l) (writeFixeds cw n (UInt8.ofNat pad) left e l)
  | .vstrs cw pw e, .strs l => emit (.strs l) (writeVstrs cw pw e l)
  | .nested ty g, v =>
    match v with
    | .msg ty' fs => if ty' = ty then encTy ty (.msg ty' fs) else errE
    | .nil => encPtr encTy g (some (zero ty)) (some ty) .nil
    | _ => errE
  | .objs cw ty e, .msgs l =>
    bindE (emit () (writeLen cw e l.length)) (fun _ => mapE Val.msgs (encAll (encTy ty) l))
  | .union key tbl g, v =>
    let ty? := unionTy env key tbl all
    encPtr encTy g (ty?.map zero) ty? v
  | _, _ => errE

/-- the encoder of a self-measuring frame, statement by statement -/
def encFrame (env : Env) (encTy : Nat → Val → E Val) (zero : Nat → Val) (fd : FrameDesc) (ty : Nat)
    (fields : List Val) : E Val := fun buf =>
  let start := buf.length                                             -- frameStart := buf.Len()
  let nh := fd.hdr.length
  (encSeq (encOp env encTy zero fields) fd.hdr (fields.take nh) buf).bind fun (hv, b1) =>
  let pos := b1.length                                                -- bodyPos := buf.Len()
  let b2 := b1 ++ toE fd.e fd.lenW 0                                  -- placeholder
  let bodyStart := b2.length                                          -- bodyStart := buf.Len()
  let ty? := unionTy env fd.key fd.tbl fields
  match fields[nh + 1]? with
  | none => .err
  | some body =>
  (encPtr encTy fd.g (ty?.map zero) ty? body b2).bind fun (body', b3) =>
  let len := (b3.length - bodyStart) % 2 ^ 32                         -- uint32(bodyEnd - bodyStart)
  let b4 := patch b3 pos (toE fd.e fd.lenW len)                       -- PutUint32(buf.Bytes()[pos:pos+4], len)
  match fd.cks with
  | none => if fields.length = nh + 2 then .ok (.msg ty (hv ++ [.num len, body']), b4) else .err
  | some (alg, w) =>
    let c := cksNat alg (b4.drop start)                               -- Calc(buf.Bytes()[frameStart:])
    if fields.length = nh + 3 then .ok (.msg ty (hv ++ [.num len, body', .num c]), b4 ++ toE fd.e w c)
    else .err

def encTy (env : Env) : Nat → Nat → Val → E Val
  | 0, _, _ => errE
  | f+1, ty, .msg ty' fields =>
    if ty' = ty then
      match env.types[ty]? with
      | none => errE
      | some td =>
        match td.frame with
        | none => mapE (Val.msg ty) (encSeq (encOp env (encTy env f) (zeroTy env f) fields) td.enc fields)
        | some fd => encFrame env (encTy env f) (zeroTy env f) fd ty fields
    else errE
  | _+1, _, .nil => panicE
  | _+1, _, _ => errE

/-- fuel that suffices for any acyclic environment -/
def Env.fuel (env : Env) : Nat := env.types.length + 1

def encode (env : Env) (v : Val) : E Val :=
  match v with
  | .msg ty _ => encTy env env.fuel ty v
  | _ => errE

def decode (env : Env) (ty : Nat) : R Val := decTy env env.fuel ty

end FinProto
