/- the regenerated discriminator tables equal the pinned ones as finite maps -/
import FinProto.Spec
import FinProto.Gen
import FinProto.Pinned
namespace FinProto.Obl
open FinProto

theorem tablesEquiv_refl : ∀ ts : List (List (Key × Nat)), Spec.tablesEquiv ts ts = true
  | [] => rfl
  | t :: ts => by
    have h : Spec.tableEquiv t t = true := by
      simp only [Spec.tableEquiv, beq_self_eq_true, Bool.and_self]
      exact List.all_eq_true.mpr fun _ _ => rfl
    rw [Spec.tablesEquiv, h, tablesEquiv_refl ts]
    rfl

/-- When the registrations are the pinned ones in the pinned order the tables are EQUAL, which is linear to evaluate, and
    equal tables are equivalent; the pairwise look-ups (quadratic in the size of a table) are evaluated only when the lists
    differ, e.g. after registrations were reordered. -/
theorem gen_tables_equiv_pinned : Spec.tablesEquiv Gen.tables Pinned.tables = true := by
  first
    | exact (show Gen.tables = Pinned.tables from rfl) ▸ tablesEquiv_refl _
    | decide +kernel

end FinProto.Obl
