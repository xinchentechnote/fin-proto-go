/- C05: a frame's checksum covers exactly that frame's bytes (frame_cks_exact at Gen.env), by the algorithm the
   pinned schema names; the algorithms themselves are C14. -/
import FinProto.Obl.SCks
import FinProto.Obl.SFrames
import FinProto.Props.EncLemmas
import FinProto.Props.ChecksumProofs
set_option linter.defProp false
namespace FinProto.Obl
open FinProto

theorem C05_frames_recognised : Gen.types.filterMap (·.frame) = Pinned.types.filterMap (·.frame) := gen_frames_eq_pinned

def C05_repo := @frame_cks_exact Gen.env

/-- the value a frame stores is the exchange's algorithm: byte sum mod 256 (SSE, SZSE), CRC-32/ISO-HDLC (sample) -/
theorem C05_sse_alg (bs : Bytes) : cksNat .sse bs = (bs.map (·.toNat)).sum % 256 := sseGo_eq bs
theorem C05_szse_alg (bs : Bytes) : cksNat .szse bs = (bs.map (·.toNat)).sum % 256 := szseGo_eq bs
theorem C05_crc32_alg (bs : Bytes) :
    BitVec.ofNat 32 (cksNat .crc32 bs) = crcRef ⟨0x04C11DB7#32, 0xFFFFFFFF#32, 0xFFFFFFFF#32, true, true⟩ bs := by
  rw [← crc32Go_eq_ieee]
  simp [cksNat]

theorem C05_calc_bodies : cksAgree Gen.cksDefs pinnedCksDefs = true := gen_cks_agree

end FinProto.Obl
