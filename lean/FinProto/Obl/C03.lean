/- C03: one byte order per protocol. Message level: every op of every message of the regenerated schema uses its
   protocol's byte order (kernel-evaluated on Gen); primitive level: the single `Endian` argument of each primitive
   is used for the count, every element and every length prefix (closed forms), so the LE variant emits the BE
   variant's bytes with each integer reversed. -/
import FinProto.Obl.SPrims
import FinProto.Obl.SEndian
import FinProto.Obl.SNoOpaque
import FinProto.Props.PrimLemmas
import FinProto.Props.NoSvcProofs
namespace FinProto.Obl
open FinProto

theorem C03_messages : Gen.env.endianOK Gen.typeProto = true := gen_endianOK
theorem C03_no_unrecognised_statement : Gen.env.noOpaque = true := gen_noOpaque

theorem C03_scalar (w n : Nat) : writeScalar w .le n = (writeScalar w .be n).reverse := by
  simp [writeScalar, toE_le_eq_reverse_be]

theorem C03_prims : primsAgree Gen.prims pinnedPrims = true := gen_prims_agree

set_option linter.defProp false in
/-- no checksum service registered: the frame is unchanged up to the trailer, which is the caller's value in the
    frame's byte order (instantiated at the regenerated schema) -/
def C03_nosvc := @encodeNS_spec Gen.env

end FinProto.Obl
