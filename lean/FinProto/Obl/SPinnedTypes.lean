/- the regenerated op lists and frame descriptors equal the committed pinned schema -/
import FinProto.Checks
import FinProto.Gen
import FinProto.Pinned
namespace FinProto.Obl
open FinProto
theorem gen_types_eq_pinned : Gen.types = Pinned.types := by rfl
theorem gen_proto_eq_pinned : Gen.typeProto = Pinned.typeProto := by rfl
end FinProto.Obl
