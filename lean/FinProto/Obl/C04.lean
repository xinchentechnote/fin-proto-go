/- C04: a frame's body-length field equals the number of body bytes emitted (frame_len_exact at Gen.env);
   the four self-measuring frames were recognised with the pinned shape. -/
import FinProto.Obl.SFrames
import FinProto.Props.EncLemmas
import FinProto.Props.NoSvcProofs
set_option linter.defProp false
namespace FinProto.Obl
open FinProto

theorem C04_frames_recognised : Gen.types.filterMap (·.frame) = Pinned.types.filterMap (·.frame) := gen_frames_eq_pinned

def C04_repo := @frame_len_exact Gen.env
def C04_shape := @frame_shape Gen.env

/-- with no checksum service registered the appended bytes are still the ordinary frame (length patched to the body's
    size), followed by the caller's checksum -/
def C04_nosvc := @encFrameNS_frame Gen.env

end FinProto.Obl
