/- the self-measuring frames of the current source are exactly the pinned ones (other types may come and go) -/
import FinProto.Checks
import FinProto.Gen
import FinProto.Pinned
namespace FinProto.Obl
open FinProto
theorem gen_frames_eq_pinned : Gen.types.filterMap (·.frame) = Pinned.types.filterMap (·.frame) := by decide +kernel
end FinProto.Obl
