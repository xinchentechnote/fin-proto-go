/- the fixed-width text statements of every message (position in the body, width, pad byte, pad side - encoder and decoder)
   are the pinned ones; statements of other kinds are not looked at -/
import FinProto.Checks
import FinProto.Gen
import FinProto.Pinned
namespace FinProto.Obl
open FinProto

/-- the fixed-width text ops of an op list, with their positions (an unrecognised statement counts: it may be one) -/
def fixedOps (ops : List Op) : List (Nat × Op) :=
  (ops.zipIdx.filter (fun p => match p.1 with
    | .fixed .. => true
    | .fixeds .. => true
    | .opaque => true
    | _ => false)).map (fun p => (p.2, p.1))

def fixedProj (td : TyDef) : List (Nat × Op) × List (Nat × Op) := (fixedOps td.enc, fixedOps td.dec)

/-- equal type lists have equal projections; the projections themselves are compared only when the lists differ
    (a layout change that leaves the fixed-width statements alone must not break this obligation) -/
theorem gen_fixed_eq_pinned : Gen.types.map fixedProj = Pinned.types.map fixedProj := by
  first
    | exact congrArg _ (show Gen.types = Pinned.types from rfl)
    | decide +kernel
end FinProto.Obl
