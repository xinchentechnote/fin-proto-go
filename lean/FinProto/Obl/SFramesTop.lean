/- `framesTop` of the environment regenerated from the current Go sources: that of `Pinned.env` when the two are the same term,
   evaluated by the kernel otherwise -/
import FinProto.Props.PinnedFacts
import FinProto.Gen
namespace FinProto.Obl
open FinProto
theorem gen_framesTop : Gen.env.framesTop = true := by
  first
    | rw [show Gen.env = Pinned.env from rfl]
      exact Pinned.framesTop
    | rw [Env.framesTop_eq]
      decide +kernel
end FinProto.Obl
