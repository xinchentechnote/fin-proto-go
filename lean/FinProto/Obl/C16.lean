/- C16: decoded messages and encoded bytes never alias each other's memory.  The interpreter is value-semantic; aliasing is
   expressed in the explicit memory model `FinProto.Alias`: each function that returns text / bytes is regenerated as
   micro-programs, one per return statement, and a static taint analysis (`Prog.retClean`) says whether the returned local can
   point into the buffer's backing array.  A clean program returns a reference into a region allocated during the call;
   returning a `view` (or a sub-slice / unsafe string of one) aliases. -/
import FinProto.Obl.SNoOpaque
import FinProto.Props.AliasProofs
import FinProto.Props.AliasTaint
import FinProto.GenLock
namespace FinProto.Obl
open FinProto FinProto.Alias

theorem C16_readString_copying (len : Nat) : (progReadString len).copying = true := progReadString_copying len
theorem C16_readFixed_copying (n a b : Nat) : (progReadFixedStringTrimPadding n a b).copying = true :=
  progReadFixedStringTrimPadding_copying n a b
theorem C16_readBasic_copying (w : Nat) : (progReadBasicType w).copying = true := progReadBasicType_copying w
/-- every function of codec/binary_codec.go that returns text or bytes read from a buffer, as REGENERATED from the source
    (data flow followed through its locals): the returned local is a fresh allocation or a COPY (`string(buf.Next(n))` is fine) -/
theorem C16_readers_copying : Gen.readerProgs.all Alias.Prog.retClean = true := by decide

/-- hence whatever a reader returns lives in memory allocated during the call, and no later overwrite, reset or reuse
    of the source buffer's backing array (`f` arbitrary) changes what it denotes -/
theorem C16_readers_immune {p : Alias.Prog} (hp : p ∈ Gen.readerProgs) {s s' : Alias.State} {r : Alias.Ref}
    (hs : s.Initial) (hrun : Alias.run p s = some (r, s')) (f : List UInt8 → List UInt8) :
    Alias.observe (Alias.scribble s'.mem s.bufRegion f) r = Alias.observe s'.mem r :=
  decode_immune_clean (List.all_eq_true.mp C16_readers_copying p hp) hs hrun f

theorem C16_no_unrecognised_statement : Gen.env.noOpaque = true := gen_noOpaque

end FinProto.Obl
