-- the static theory: model, specification, generic theorems (no dependence on the regenerated data)
import FinProto.Basic
import FinProto.Outcome
import FinProto.Prim
import FinProto.Checksum
import FinProto.Schema
import FinProto.Interp
import FinProto.Checks
import FinProto.Spec
import FinProto.Pinned
import FinProto.Registry
import FinProto.Par
import FinProto.Recv
import FinProto.Wire
import FinProto.Props.SideConds
import FinProto.Props.PinnedFacts
import FinProto.Props.ValEq
import FinProto.Props.PrimLemmas
import FinProto.Props.DecLemmas
import FinProto.Props.Leaf
import FinProto.Props.EncForm
import FinProto.Props.EncLemmas
import FinProto.Props.EncLemmasPinned
import FinProto.Props.ChecksumProofs
import FinProto.Props.LockOK
import FinProto.Props.History
import FinProto.Props.RegistryProofs
import FinProto.Props.RecvProofs
import FinProto.Props.RenderEq
import FinProto.Cost
import FinProto.Props.CostProofs
import FinProto.Props.RoundTrip
import FinProto.Props.DecEnc
import FinProto.Alias
import FinProto.Props.AliasProofs
import FinProto.LockProg
import FinProto.CodecProg
import FinProto.Props.LockProgProofs
import FinProto.NoSvc
import FinProto.Props.NoSvcProofs
import FinProto.Props.AliasTaint
import FinProto.GoIR
import FinProto.PinnedIR
import FinProto.GoIRSpec
import FinProto.Props.GoIRAttr
import FinProto.Props.GoIRKit
import FinProto.Props.GoIRSim
import FinProto.Props.GoIRTie
import FinProto.Props.GoIRTieDec
